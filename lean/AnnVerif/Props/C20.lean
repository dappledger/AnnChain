/-
  C20 — P2P transport is authenticated, ordered and intact; admission rules hold.  (PARTIAL)

  Model: Model/Transport.lean (SecretConnection Write/Read framing with SYMBOLIC authenticated
  encryption; MConnection packetisation and reassembly) and Model/Admission.lean (decision logic
  of Switch.AddPeerWithConnection, peerHandshake, authByCA). PROVED:
    S1  `Write` cuts the data into chunks of 1..1024 bytes whose concatenation is the data;
    S2  (repaired Read) for every receiver state, every buffer size and every wire of intact frames
        in nonce order: what a read delivers, followed by what is still buffered and on the wire,
        is exactly what was buffered and on the wire before — so over any sequence of reads of any
        sizes no byte is lost, duplicated or reordered; the reported count is the delivered count;
    S3  a frame that was modified in any way, or that is not the next one (replayed, reordered,
        a frame dropped before it), makes the read fail and delivers nothing;
    S4  as found a read served from the internal buffer reported 0 bytes: the caller lost them
        (counter-theorem, replayed on the code);
    M1  the packets of a message, received in order by a channel with sufficient capacity,
        reassemble to exactly the message, and only the last packet completes it; a message beyond
        the capacity is refused;
    A1-A3 the admission decision stated outright (see Model/Admission.lean).
  NOT proved (assumed, named): that NaCl secretbox/box and Ed25519 behave like the symbolic
  primitives; the key exchange itself; concurrency of MConnection's send/receive routines (the
  engine runs the real routines and checks per-channel order and content).
-/
import AnnVerif.Lemmas.Transport
namespace AnnVerif.C20
open AnnVerif AnnVerif.Transport

/-- S1 -/
theorem chunks_flatten : ∀ (fuel : Nat) (d : Bytes), d.length < fuel → (chunks fuel d).flatten = d := by
  intro fuel d h
  fun_induction chunks fuel d with
  | case1 => omega
  | case2 f d he => exact (List.isEmpty_iff.1 he).symm
  | case3 f d he ih =>
    have hpos : 0 < d.length := List.length_pos_iff.mpr (by simpa using he)
    rw [List.flatten_cons, ih (by simp only [List.length_drop, dataMaxSize]; omega), List.take_append_drop]

/-- S1 -/
theorem chunks_sizes : ∀ (fuel : Nat) (d : Bytes), ∀ c ∈ chunks fuel d, 0 < c.length ∧ c.length ≤ dataMaxSize := by
  intro fuel d
  fun_induction chunks fuel d with
  | case1 => nofun
  | case2 => nofun
  | case3 f d he ih =>
    intro c hc
    have hpos : 0 < d.length := List.length_pos_iff.mpr (by simpa using he)
    rcases List.mem_cons.mp hc with rfl | hc'
    · simp only [List.length_take, dataMaxSize]; omega
    · exact ih c hc'

/-- S2 over any sequence of reads of any sizes: everything received so far, plus what is buffered
    and still on the wire, is the original stream -/
theorem stream_intact : ∀ (ks : List Nat) (r : Receiver) (wire : List Sealed), WireOK r.nonce wire →
    let res := readMany {} r wire ks
    res.2.2.1 ++ res.1.buf ++ flat res.2.1 = r.buf ++ flat wire ∨ res.2.2.2 = false := by
  intro ks r wire hw
  exact .inl (stream_conserved ks r wire hw)

/-- with intact frames in order, a read never fails to decrypt -/
theorem intact_wire_never_fails (r : Receiver) (wire : List Sealed) (k : Nat) (hw : WireOK r.nonce wire) :
    (scRead {} r wire k).2.2 ≠ .decryptError := by
  rcases read_conserves_stream r wire k hw with ⟨-, -, he⟩ | ⟨_, _, _, he, -, -⟩
  · rw [he]
    nofun
  · rw [he]
    nofun

/-- S3: a modified frame, or one that is not the next in sequence, fails and delivers nothing -/
theorem tampering_detected (cfg : Cfg) (r : Receiver) (f : Sealed) (rest : List Sealed) (k : Nat)
    (hb : r.buf = []) (htr : f.truncated = false) (hbad : f.intact = false ∨ f.nonce ≠ r.nonce) :
    scRead cfg r (f :: rest) k = (r, rest, .decryptError) := by
  simp [scRead, hb, htr, hbad]

/-- S4: as found, bytes handed out of the internal buffer are not reported to the caller -/
theorem asFound_buffered_bytes_lost :
    (readMany ⟨false⟩ {} [⟨0, [1, 2, 3], true, false⟩] [2, 2]).2.2.1 = [1, 2] ∧
    (readMany {} {} [⟨0, [1, 2, 3], true, false⟩] [2, 2]).2.2.1 = [1, 2, 3] := by decide

/-- what a channel yields while it receives a list of packets: the final buffer and every completed message -/
def recvAll (capacity : Nat) : Bytes → List Packet → Bytes × List Bytes × Bool
  | rc, [] => (rc, [], true)
  | rc, p :: ps =>
    match recvPacket capacity rc p with
    | (rc', .more) => recvAll capacity rc' ps
    | (rc', .complete m) => let (b, ms, ok) := recvAll capacity rc' ps; (b, m :: ms, ok)
    | (rc', .tooLong) => (rc', [], false)

theorem packetize_reassembles (ch cap fuel : Nat) (m rc : Bytes) (h : m.length < fuel)
    (hc : rc.length + m.length ≤ cap) :
    recvAll cap rc (packetize ch fuel m) = ([], [rc ++ m], true) := by
  fun_induction packetize ch fuel m generalizing rc with
  | case1 => omega
  | case2 f m hle => rw [recvAll, recvPacket_within cap ch true rc m hc]; rfl
  | case3 f m hgt ih =>
    have hp : 0 < maxPayload := by decide
    have hlen : (m.take maxPayload).length = maxPayload := by rw [List.length_take]; omega
    rw [recvAll, recvPacket_within cap ch false rc _ (by omega), if_neg Bool.false_ne_true]
    simp only
    rw [ih _ (by rw [List.length_drop]; omega) (by rw [List.length_append, List.length_drop]; omega),
      List.append_assoc, List.take_append_drop]

/-- M1: the packets of a message reassemble to exactly the message -/
theorem message_arrives_complete (ch cap : Nat) (m : Bytes) (hc : m.length ≤ cap) :
    recvAll cap [] (packets ch m) = ([], [m], true) :=
  packetize_reassembles ch cap (m.length + 1) m [] (by omega) (by simpa using hc)

/-- a message beyond the receive capacity is refused, never delivered cut short -/
theorem over_capacity_refused (cap : Nat) (rc : Bytes) (p : Packet) (h : cap < rc.length + p.bytes.length) :
    recvPacket cap rc p = (rc, .tooLong) := by
  unfold recvPacket
  rw [if_pos h]

example : (recvAll 5000 [] (packets 3 (List.replicate 2500 7))).2.1 = [List.replicate 2500 7] := by
  have : (List.replicate 2500 (7 : UInt8)).length ≤ 5000 := by rw [List.length_replicate]; omega
  rw [message_arrives_complete 3 5000 _ this]

open AnnVerif.Admission in
/-- A1: whoever is admitted is not on the refuse list, is the key that signed the handshake
    challenge, is not the node itself, and — where authority admission is on — is either a current
    validator exempted by configuration or presents a certificate signed by a CURRENT authority -/
theorem admitted_means (n : Admission.Node) (p : Admission.Peer) (h : Admission.admission {} n p = .admitted) :
    p.connKey ∉ n.refuse ∧ p.announced = p.connKey ∧ p.announced ≠ n.self ∧
    (n.authByCA = true →
      ((∃ v ∈ n.validatorsNow, v.key = p.announced) ∧ n.nonValidatorNodeAuth = false) ∨
      (∃ v ∈ n.validatorsNow, v.isCA = true ∧ v.key ∈ p.signedBy)) := by
  obtain ⟨h1, h2, h3, h4⟩ := (admitted_iff {} n p).mp h
  exact ⟨h1, h3, h4, fun ha => (caAccepts_iff {} n p).mp (h2 ha)⟩

/-- A2: a key on the refuse list is never admitted, whatever else it presents -/
theorem refused_key_never_admitted (cfg : Admission.Cfg) (n : Admission.Node) (p : Admission.Peer)
    (h : p.connKey ∈ n.refuse) : Admission.admission cfg n p = .onRefuseList := by
  simp [Admission.admission, h]

/-- A2': announcing another identity than the one that signed the challenge is never admitted -/
theorem impersonation_never_admitted (cfg : Admission.Cfg) (n : Admission.Node) (p : Admission.Peer)
    (h : p.announced ≠ p.connKey) : Admission.admission cfg n p ≠ .admitted :=
  fun ha => h ((Admission.admitted_iff cfg n p).mp ha).2.2.1

/-- A3: as found the authority check used the validator set the node STARTED with: the certificate
    of an authority that has since been removed still admits (key 9 signed by authority 1, which
    was a validator at start and no longer is) -/
theorem asFound_removed_authority_still_admits :
    let n : Admission.Node := ⟨0, [], true, true, [⟨1, true⟩, ⟨2, false⟩], [⟨2, false⟩, ⟨3, true⟩]⟩
    let p : Admission.Peer := ⟨9, 9, [1]⟩
    Admission.admission ⟨false⟩ n p = .admitted ∧ Admission.admission {} n p = .noAuthority := by decide

end AnnVerif.C20
