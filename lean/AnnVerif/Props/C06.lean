/-
  C06 — Crash-atomic commit: restart after any crash converges to the uncrashed result.

  Theorems about Model/Crash.lean (what each class of durable write makes durable; the node's
  start-up reconciliation: EVMApp.Start, the NewBlockchainReactor height adjustment, RecoverFromCrash,
  reconstructLastCommit):

  K1 ordered_startup          for EVERY disk image that respects the three ordering facts (the store
                              descriptor after everything of the block; the application marker after the
                              trie of its root and after the descriptor; the saved state after marker and
                              intermediate state) start-up succeeds - except in ONE window: descriptor
                              and marker durable, state not yet saved
  K2 asIs_ordered             the order in which the node issues the writes of a commit keeps the three
                              facts at EVERY crash point (any number of block parts, any number of
                              trailing WAL / signer writes)
  K3 asIs_startup_partial     hence start-up succeeds after a crash at every point of a commit outside
                              that window
  K4 asIs_window_fails        in the window it fails (counter-theorem; the engine reproduces it on the
                              real node: known finding, not repaired)
  K5 marker_before_trie_fails / descriptor_before_seen_unordered
                              reordered commits (the two seeded changes) break a fact at some crash point
-/
import AnnVerif.Lemmas.Crash
import AnnVerif.Lemmas.Logic
namespace AnnVerif.C06
open AnnVerif.Crash

/-- the window: block stored, application committed, state not saved -/
def InWindow (d : Disk) : Prop := d.store = true ∧ d.app = true ∧ d.state = false

theorem orderedB_iff (d : Disk) : orderedB d = true ↔ Ordered d := by
  simp only [orderedB, Ordered, Bool.and_eq_true, not_or_eq_true_iff, and_assoc]

/-- K1 -/
theorem ordered_startup (d : Disk) (h : Ordered d) :
    startup false d = .ok ∨ (InWindow d ∧ startup false d = .appAhead) :=
  startup_ordered false d h

/-- K2: the node's own order keeps the ordering facts at every crash point (a block has at least
    one part) -/
theorem asIs_ordered (nParts nOther j : Nat) : Ordered (crashDisk (commitWrites (nParts + 1) nOther) j) :=
  inOrder_crash (by simp [Ordered]) (commitWrites_inOrder nParts nOther) (j - 1)

/-- K3 -/
theorem asIs_startup_partial (nParts nOther j : Nat) :
    startup false (crashDisk (commitWrites (nParts + 1) nOther) j) = .ok ∨
    (InWindow (crashDisk (commitWrites (nParts + 1) nOther) j) ∧
     startup false (crashDisk (commitWrites (nParts + 1) nOther) j) = .appAhead) :=
  ordered_startup _ (asIs_ordered nParts nOther j)

/-- K1', K3' for the first block: start-up always succeeds, but in the window block 1 is executed
    again on an application that has already committed it -/
theorem ordered_startup_first (d : Disk) (h : Ordered d) :
    startup true d = .ok ∨ (InWindow d ∧ startup true d = .okReexecuted) :=
  startup_ordered true d h

theorem asIs_startup_first_partial (nParts nOther j : Nat) :
    startup true (crashDisk (commitWrites (nParts + 1) nOther) j) = .ok ∨
    (InWindow (crashDisk (commitWrites (nParts + 1) nOther) j) ∧
     startup true (crashDisk (commitWrites (nParts + 1) nOther) j) = .okReexecuted) :=
  ordered_startup_first _ (asIs_ordered nParts nOther j)

/-- K4: the window is real - a crash before the receipts batch or before State.Save -/
theorem asIs_window_fails :
    startup false (crashDisk (commitWrites 1 3) 11) = .appAhead ∧
    startup false (crashDisk (commitWrites 1 3) 12) = .appAhead ∧
    startup false (crashDisk (commitWrites 1 3) 10) = .ok ∧
    startup false (crashDisk (commitWrites 1 3) 13) = .ok ∧
    startup true (crashDisk (commitWrites 1 3) 12) = .okReexecuted := by decide

/-- K5a (seed: marker written before the trie is flushed) -/
def markerFirst : List W :=
  [.bmeta, .part, .lastCommit, .seenCommit, .descriptor, .flush, .other, .interm, .marker, .trie, .receipts, .stateKey]

theorem marker_before_trie_fails :
    startup false (crashDisk markerFirst 10) = .appCannotOpen ∧ ¬ Ordered (crashDisk markerFirst 10) := by
  exact ⟨by decide, mt (orderedB_iff _).2 (by decide)⟩

/-- K5b (seed: descriptor written before the seen commit) -/
def descriptorFirst : List W :=
  [.bmeta, .part, .lastCommit, .descriptor, .seenCommit, .interm, .trie, .marker, .receipts, .stateKey]

theorem descriptor_before_seen_unordered : ¬ Ordered (crashDisk descriptorFirst 5) :=
  mt (orderedB_iff _).2 (by decide)

/-! ### non-vacuity -/
example : crashDisk (commitWrites 2 5) 40 = ⟨true, true, true, true, true, true, true, true, true, true⟩ := by decide
example : (crashDisk (commitWrites 2 5) 7).store = true ∧ (crashDisk (commitWrites 2 5) 7).app = false := by decide

end AnnVerif.C06
