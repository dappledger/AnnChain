/-
  C10 — EVM semantics conform to reference go-ethereum (Constantinople rules).

  The oracle of this property is another implementation; what is proved here concerns the part of
  the machine that has a specification of its own: the 256-bit word arithmetic. The model
  (Model/Word.lean) is run against the in-tree EVM and the reference on generated straight-line
  programs; the theorems say that the model's instructions are the arithmetic they are meant to be:

  W1 ops_wf, runToks_wf     every instruction keeps words below 2^256; so does every program
  W2 exp_spec               EXP (square-and-multiply over the exponent's bits, Word.powMod_eq) is a^b mod 2^256
  W3 sub_add_cancel, add_comm, mul_comm, not_not, toInt_ofInt  ring / complement laws
  W4 shl_eq, shr_eq, sar_nonneg, byte_lt, signextend_big       shifts, BYTE and SIGNEXTEND
  W5 sdiv_overflow, smod_sign_examples                         the signed corner cases
-/
import AnnVerif.Lemmas.Word
namespace AnnVerif.C10
open AnnVerif.Word

/-! ### W2: EXP -/

/-- EXP is exponentiation modulo 2^256, for every exponent that fits a word -/
theorem exp_spec (a b : Nat) (hb : b < M) : exp a b = a ^ b % M := by
  rw [exp, powMod_eq, Nat.mod_eq_of_lt (show b < 2 ^ 256 from hb)]

/-! ### W3 -/

theorem add_comm (a b : Nat) : add a b = add b a := by unfold add; rw [Nat.add_comm]
theorem mul_comm (a b : Nat) : mul a b = mul b a := by unfold mul; rw [Nat.mul_comm]

theorem sub_add_cancel (a b : Nat) (ha : a < M) (hb : b < M) : add (sub a b) b = a := by
  unfold add sub
  rw [Nat.mod_add_mod, Nat.sub_add_cancel (Nat.le_trans (Nat.le_of_lt hb) (Nat.le_add_left M a)),
    Nat.add_mod_right, Nat.mod_eq_of_lt ha]

theorem not_not (a : Nat) (ha : a < M) : not_ (not_ a) = a := Nat.sub_sub_self (Nat.le_sub_one_of_lt ha)

theorem toInt_ofInt (a : Nat) (ha : a < M) : ofInt (toInt a) = a := by
  unfold toInt
  split
  · exact ofInt_natCast a ha
  · unfold ofInt
    rw [Int.sub_emod_right]
    exact ofInt_natCast a ha

/-! ### W4 -/

theorem shl_eq (s v : Nat) (hs : s < 256) : shl s v = (v * 2 ^ s) % M := by
  unfold shl; rw [if_neg (by omega)]
theorem shr_eq (s v : Nat) (hs : s < 256) : shr s v = v / 2 ^ s := by
  unfold shr; rw [if_neg (by omega)]
theorem shl_big (s v : Nat) (hs : 256 ≤ s) : shl s v = 0 := by unfold shl; rw [if_pos hs]
theorem shr_big (s v : Nat) (hs : 256 ≤ s) : shr s v = 0 := by unfold shr; rw [if_pos hs]

/-- on non-negative words the arithmetic shift is the logical one -/
theorem sar_nonneg (s v : Nat) (hs : s < 256) (hv : v < H) : sar s v = shr s v := by
  have hs' : ¬ s ≥ 256 := Nat.not_le.2 hs
  have hH : H < M := by unfold H M; exact Nat.pow_lt_pow_right (by decide) (by decide)
  unfold sar shr toInt
  rw [if_neg hs', if_neg hs', if_pos hv, ← Int.natCast_ediv]
  exact ofInt_natCast _ (Nat.lt_of_le_of_lt (Nat.div_le_self _ _) (Nat.lt_trans hv hH))

theorem byte_lt (i x : Nat) : byte i x < 256 := by
  unfold byte
  split
  · decide
  · exact Nat.mod_lt _ (by decide)

theorem signextend_big (k x : Nat) (hk : 31 ≤ k) : signextend k x = x := by
  unfold signextend; rw [if_pos hk]

/-! ### W5: the signed corner cases, computed -/

/-- −2^255 / −1 does not fit: the result wraps to −2^255 -/
theorem sdiv_overflow : sdiv H (M - 1) = H := by decide
theorem sdiv_by_zero (a : Nat) : sdiv a 0 = 0 := by simp [sdiv]
theorem smod_by_zero (a : Nat) : smod a 0 = 0 := by simp [smod]
/-- −7 smod 3 = −1 (sign of the dividend), 7 smod −3 = 1 -/
theorem smod_sign_examples : smod (M - 7) 3 = M - 1 ∧ smod 7 (M - 3) = 1 ∧ sdiv (M - 7) 2 = M - 3 := by decide
theorem signextend_examples :
    signextend 0 0xff = M - 1 ∧ signextend 0 0x7f = 0x7f ∧ signextend 1 0x8000 = M - 0x8000 ∧ signextend 0 0x1ff = M - 1 := by
  decide
theorem sar_examples : sar 1 (M - 2) = M - 1 ∧ sar 300 (M - 2) = M - 1 ∧ sar 300 5 = 0 ∧ sar 255 H = M - 1 := by decide

/-! ### W1 -/

def Tok.WF : Tok → Prop
  | .push _ => True
  | .bin f => ∀ a b, a < M → b < M → f a b < M
  | .tern f => ∀ a b c, a < M → b < M → c < M → f a b c < M
  | .un f => ∀ a, a < M → f a < M
  | .pop => True
  | .dup _ => True
  | .swap _ => True

def AllLt (st : List Nat) : Prop := ∀ x ∈ st, x < M

theorem stepTok_wf (st st' : List Nat) (t : Tok) (ht : Tok.WF t) (hs : AllLt st)
    (h : stepTok st t = some st') : AllLt st' := by
  unfold AllLt at *
  cases t with
  | push v =>
    obtain rfl := Option.some.inj h
    exact List.forall_mem_cons.2 ⟨Nat.mod_lt _ M_pos, hs⟩
  | bin f =>
    match st, h with
    | a :: b :: r, h =>
      obtain rfl := Option.some.inj h
      obtain ⟨ha, hs⟩ := List.forall_mem_cons.1 hs
      obtain ⟨hb, hs⟩ := List.forall_mem_cons.1 hs
      exact List.forall_mem_cons.2 ⟨ht a b ha hb, hs⟩
  | tern f =>
    match st, h with
    | a :: b :: c :: r, h =>
      obtain rfl := Option.some.inj h
      obtain ⟨ha, hs⟩ := List.forall_mem_cons.1 hs
      obtain ⟨hb, hs⟩ := List.forall_mem_cons.1 hs
      obtain ⟨hc, hs⟩ := List.forall_mem_cons.1 hs
      exact List.forall_mem_cons.2 ⟨ht a b c ha hb hc, hs⟩
  | un f =>
    match st, h with
    | a :: r, h =>
      obtain rfl := Option.some.inj h
      obtain ⟨ha, hs⟩ := List.forall_mem_cons.1 hs
      exact List.forall_mem_cons.2 ⟨ht a ha, hs⟩
  | pop =>
    match st, h with
    | a :: r, h =>
      obtain rfl := Option.some.inj h
      exact (List.forall_mem_cons.1 hs).2
  | dup n =>
    simp only [stepTok] at h
    split at h
    · rename_i v hv
      split at h
      · cases h
      · obtain rfl := Option.some.inj h
        exact List.forall_mem_cons.2 ⟨hs _ (List.mem_of_getElem? hv), hs⟩
    · cases h
  | swap n =>
    simp only [stepTok] at h
    split at h
    · rename_i a r v hv
      split at h
      · cases h
      · obtain rfl := Option.some.inj h
        refine List.forall_mem_cons.2 ⟨hs _ (List.mem_of_getElem? hv), fun x hx => ?_⟩
        rcases List.mem_or_eq_of_mem_set (List.mem_of_mem_tail hx) with h1 | rfl
        · exact hs x h1
        · exact hs _ List.mem_cons_self
    · cases h

theorem runToks_wf (toks : List Tok) (hw : ∀ t ∈ toks, Tok.WF t) (st st' : List Nat) (hs : AllLt st)
    (h : runToks toks st = some st') : AllLt st' := by
  induction toks generalizing st with
  | nil => exact Option.some.inj h ▸ hs
  | cons t ts ih =>
    obtain ⟨s1, hst, h⟩ := Option.bind_eq_some_iff.1 h
    exact ih (fun t' ht' => hw t' (List.mem_cons_of_mem t ht')) s1 (stepTok_wf st s1 t (hw t List.mem_cons_self) hs hst) h

/-- every instruction of the model is well-formed -/
theorem ops_wf :
    Tok.WF (.bin add) ∧ Tok.WF (.bin mul) ∧ Tok.WF (.bin sub) ∧ Tok.WF (.bin div) ∧ Tok.WF (.bin sdiv) ∧
    Tok.WF (.bin mod) ∧ Tok.WF (.bin smod) ∧ Tok.WF (.bin exp) ∧ Tok.WF (.bin lt) ∧ Tok.WF (.bin gt) ∧
    Tok.WF (.bin slt) ∧ Tok.WF (.bin sgt) ∧ Tok.WF (.bin eq) ∧ Tok.WF (.bin and_) ∧ Tok.WF (.bin or_) ∧
    Tok.WF (.bin xor_) ∧ Tok.WF (.bin byte) ∧ Tok.WF (.bin shl) ∧ Tok.WF (.bin shr) ∧ Tok.WF (.bin sar) ∧
    Tok.WF (.un iszero) ∧ Tok.WF (.un not_) := by
  have mod_lt : ∀ x, x % M < M := fun x => Nat.mod_lt x M_pos
  have le_lt : ∀ {x a}, x ≤ a → a < M → x < M := Nat.lt_of_le_of_lt
  -- one bound per instruction, in the rows of the statement
  exact ⟨fun _ _ _ _ => mod_lt _, fun _ _ _ _ => mod_lt _, fun _ _ _ _ => mod_lt _,
      fun a b ha _ => zero_or_lt (le_lt (Nat.div_le_self a b) ha), fun _ _ _ _ => zero_or_lt (ofInt_lt _),
    fun a b ha _ => zero_or_lt (le_lt (Nat.mod_le a b) ha), fun _ _ _ _ => zero_or_lt (ofInt_lt _),
      fun a b _ hb => exp_spec a b hb ▸ mod_lt _, fun _ _ _ _ => cmp_lt _, fun _ _ _ _ => cmp_lt _,
    fun _ _ _ _ => cmp_lt _, fun _ _ _ _ => cmp_lt _, fun _ _ _ _ => cmp_lt _,
      fun _ _ ha _ => le_lt Nat.and_le_left ha, fun _ _ ha hb => Nat.or_lt_two_pow ha hb,
    fun _ _ ha hb => Nat.xor_lt_two_pow ha hb, fun a b _ _ => Nat.lt_trans (byte_lt a b) (by decide),
      fun _ _ _ _ => zero_or_lt (mod_lt _), fun s v _ hv => zero_or_lt (le_lt (Nat.div_le_self v _) hv),
      fun s v _ _ => sar_lt s v,
    fun _ _ => cmp_lt _, fun a _ => le_lt (Nat.sub_le _ a) (Nat.sub_one_lt (Nat.ne_of_gt M_pos))⟩

end AnnVerif.C10
