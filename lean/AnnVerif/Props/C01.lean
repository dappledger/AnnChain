/-
  C01 — Agreement: honest validators never commit different blocks at a height.

  LAYER 1 (proved here, Lemmas/Agreement.lean): the abstract agreement theorem. For ANY number of
  validators, ANY voting-power distribution, ANY Byzantine subset holding less than one third of
  the power and ANY vote history (every order, delay, duplication, loss, equivocation by the
  Byzantine validators is a history), if the HONEST validators obey
      A1  at most one prevote and one precommit per round            (C03),
      A2  precommit a block only in a round with a polka for it      (C04 L1 + C15 soundness),
      A3  after precommitting b, prevote something else only after a polka for something else
          in a round strictly in between                              (C04 L2),
  then two blocks can never both reach more than 2/3 of the precommits — in the same round or
  in different rounds. A commit needs such a quorum in one round (C04 L4), hence agreement.
  Two forms are proved. `agreement_one_height` is over an untimed history and needs the releasing
  polka of A3 in a round STRICTLY before the deviating prevote. The implementation (like
  Tendermint) also unlocks on +2/3 prevotes for something else in the round the node is in, before
  it has prevoted there; as a fact about a finished history that is circular (the prevotes of a
  round could release each other) and an untimed A3 with "≤" does not give agreement. What makes
  the rule sound is causality, so `agreement_one_height_timed` (Lemmas/AgreementT.lean) is over
  TIMED vote events: the polkas of A2 and A3 consist of prevotes cast strictly earlier, A3's polka
  is of a round in (r, r'], and the proof is by induction on time. That is the form the node model
  discharges: the justification is in the node's own vote sets when it signs (C04 L8, L9).

  LAYER 2 (proved for crash-free runs, Lemmas/NetAgreement.lean): AGREEMENT FOR A NETWORK OF NODE
  MODELS. The system is any number of honest nodes, each the complete round-state-machine model of
  C04 (`Node`, tied step by step to the real ConsensusState), under an adversarial scheduler: every
  global step hands one node one input - ANY message from any peer (proposals, parts, votes with
  any content and any signature bit: this is where Byzantine validators live), an own queued
  message, a timeout, a peer's majority claim - in any order, with any duplication, delay or loss.
  The one constraint on inputs is UNFORGEABILITY (`Auth`): a vote that verifies under the key of an
  honest validator has been signed by that validator's node. `agreement_network` then says: with
  less than a third of the power outside the honest nodes, two nodes never emit commits for
  different blocks at one height - over every schedule, every height, any validator count and
  power distribution. The proof discharges A1-A3 of the timed agreement theorem (with global step
  numbers as time) from the run invariants of ONE node (C04 L8, L10, L11; their frozen forms for
  heights the node has left, `Lemmas/NodePast.lean`; C15's vote-set invariant for every vote set a
  node holds, so that a reported +2/3 consists of offered, validly signed votes; commits are
  emitted with +2/3 precommits of one round in the vote sets frozen at that moment).
  NOT covered by the theorem: crash/restart of honest nodes (the ghost history does not survive
  `Wal.restart`; across restarts A1 is the signer's guarantee, C03, and what replay restores is
  C07 - both decided per run), chain linearity across heights (C02), and the tie of the model to
  the code, which is what the c01 "net" engine checks on every run: several real ConsensusStates
  under a seeded adversarial scheduler (reordering, duplication, loss with retransmission,
  arbitrary timeouts, Byzantine validators below 1/3 that equivocate, crash + WAL restart), each
  honest node compared step by step with its Lean model, with Go-side oracles for agreement and
  for chain linkage.
-/
import AnnVerif.Lemmas.Agreement
import AnnVerif.Lemmas.AgreementT
import AnnVerif.Lemmas.NetExample
namespace AnnVerif.C01
open AnnVerif.Agreement AnnVerif.Fairness

/-- C01 (layer 1): agreement for one height, any validator set, any Byzantine set below 1/3. -/
theorem agreement_one_height {Block : Type} (N : Nat) (w : Nat → Int) (F : Nat → Prop)
    (H : History Block) (hw : ∀ j, j < N → 0 ≤ w j) (hF : 3 * pow N w F < S N w)
    (rules : HonestRules N w F H) (r r' : Nat) (b b' : Block)
    (hq : CommitQuorum N w H r b) (hq' : CommitQuorum N w H r' b') : b = b' :=
  Agreement.agreement N w F H hw hF rules r r' b b' hq hq'

/-- C01 (layer 1, timed): agreement when the unlocking polka may be of the prevote's own round but
    has to be complete before the prevote is cast. -/
theorem agreement_one_height_timed {Block : Type} (N : Nat) (w : Nat → Int) (F : Nat → Prop)
    (H : AgreementT.THistory Block) (hw : ∀ j, j < N → 0 ≤ w j) (hF : 3 * pow N w F < S N w)
    (rules : AgreementT.HonestRules N w F H) (r r' : Nat) (b b' : Block)
    (hq : AgreementT.CommitQuorum N w H r b) (hq' : AgreementT.CommitQuorum N w H r' b') : b = b' :=
  AgreementT.agreement N w F H hw hF rules r r' b b' hq hq'

/-- quorum intersection on its own: any two > 2/3 sets share an honest validator -/
theorem two_quorums_share_an_honest_validator (N : Nat) (w : Nat → Int)
    (hw : ∀ j, j < N → 0 ≤ w j) (F P Q : Nat → Prop) (hF : 3 * pow N w F < S N w)
    (hP : 3 * pow N w P > 2 * S N w) (hQ : 3 * pow N w Q > 2 * S N w) :
    ∃ j, j < N ∧ P j ∧ Q j ∧ ¬ F j :=
  quorum_intersection N w hw F P Q hF hP hQ

/-- once a block has a commit quorum, no later round of that height can produce a polka for
    anything else (the invariant behind the proof; also what makes late joiners safe) -/
theorem commit_quorum_blocks_later_polkas {Block : Type} (N : Nat) (w : Nat → Int) (F : Nat → Prop)
    (H : History Block) (hw : ∀ j, j < N → 0 ≤ w j) (hF : 3 * pow N w F < S N w)
    (rules : HonestRules N w F H) (r : Nat) (b : Block) (hq : CommitQuorum N w H r b)
    (r' : Nat) (h : r < r') (y : Option Block) (hy : y ≠ some b) : ¬ Polka N w H r' y :=
  no_later_polka N w F H hw hF rules r b hq r' h y hy

/-! ### non-vacuity: four equal validators, validator 3 Byzantine and equivocating, the three
    honest ones prevote and precommit block 7 in round 0: the rules hold and there is a quorum. -/

def exH : History Nat where
  prevote j r x := r = 0 ∧ (x = some 7 ∨ (j = 3 ∧ x = some 8))
  precommit j r x := r = 0 ∧ (x = some 7 ∨ (j = 3 ∧ x = some 8))

example : 3 * pow 4 (fun _ => 1) (fun j => j = 3) < S 4 (fun _ => (1 : Int)) := by
  simp [pow, S]

example : CommitQuorum 4 (fun _ => 1) exH 0 7 := by
  simp [CommitQuorum, pow, S, exH]

/-! the same history with times: prevotes at time 0, precommits at time 1 -/

def exT : AgreementT.THistory Nat where
  prevote j r x s := r = 0 ∧ s = 0 ∧ (x = some 7 ∨ (j = 3 ∧ x = some 8))
  precommit j r x s := r = 0 ∧ s = 1 ∧ (x = some 7 ∨ (j = 3 ∧ x = some 8))

example : AgreementT.HonestRules 4 (fun _ => 1) (fun j => j = 3) exT := by
  have uniq : ∀ (j : Nat) (x y : Option Nat), ¬ j = 3 → x = some 7 ∨ (j = 3 ∧ x = some 8) →
      y = some 7 ∨ (j = 3 ∧ y = some 8) → x = y := by
    intro j x y hf h1 h2
    rw [h1.resolve_right fun h => hf h.1, h2.resolve_right fun h => hf h.1]
  refine ⟨fun j r x y s s' hf h1 h2 => uniq j x y hf h1.2.2 h2.2.2,
    fun j r x y s s' hf h1 h2 => uniq j x y hf h1.2.2 h2.2.2, ?_, ?_⟩
  · intro j r b t hf h
    simp only [exT] at h
    obtain ⟨hr, ht, hb⟩ := h
    subst hr; subst ht
    rcases hb with hb | hb
    · injection hb with hb; subst hb
      simp [AgreementT.PolkaBefore, pow, S, exT]
    · exact absurd hb.1 hf
  · intro j r b t r' x t' hf h hlt h' _
    simp only [exT] at h h'
    omega

example : AgreementT.CommitQuorum 4 (fun _ => 1) exT 0 7 := by
  simp [AgreementT.CommitQuorum, pow, S, exT]

/-- C01 (layer 2): in every valid run of a system of honest node models - any schedule, any
    messages from anybody, unforgeable signatures, validators outside the honest nodes holding less
    than a third of the power - no two nodes ever commit different blocks at one height. -/
theorem agreement_network {K : Nat} {V : List VoteSet.Validator} {me0 : Nat → Option Nat} {g0 : Net.G}
    {as : List Net.Act} (setting : Net.Setting K V me0 g0 as)
    (byz : 3 * pow V.length (Net.wOf V) (fun j => ¬ Net.Honest K me0 j) < S V.length (Net.wOf V))
    (height : Int) (s s' k k' : Nat) (hk : k < K) (hk' : k' < K) (b b' : Bytes) (hb : b ≠ []) (hb' : b' ≠ [])
    (hc : Node.Emit.commit height b ∈ ((Net.stateAt g0 as s).node k).out)
    (hc' : Node.Emit.commit height b' ∈ ((Net.stateAt g0 as s').node k').out) : b = b' :=
  Net.agreement_net setting byz s s' k k' hk hk' b b' hb hb' hc hc'

/-- the vote history of every height of every such run obeys the honest rules: A1 (one precommit
    per round), A2 (a precommit for a block comes with a polka), A3 (after precommitting b a
    prevote for something else in a later round is cast only when a polka for something else, of
    a round in between, is already complete) -/
theorem network_votes_obey_the_rules {K : Nat} {V : List VoteSet.Validator} {me0 : Nat → Option Nat} {g0 : Net.G}
    {as : List Net.Act} (setting : Net.Setting K V me0 g0 as) (height : Int) :
    Net.HonestRules V.length (Net.wOf V) (fun j => ¬ Net.Honest K me0 j) (Net.Hs K me0 g0 as height) :=
  Net.honest_rules setting

/-- no equivocation by honest nodes over a whole run of the network: at most one prevote and one
    precommit per height and round (crash-free runs; across restarts it is the signer's theorem, C03) -/
theorem network_no_equivocation {K : Nat} {V : List VoteSet.Validator} {me0 : Nat → Option Nat} {g0 : Net.G}
    {as : List Net.Act} (setting : Net.Setting K V me0 g0 as) (height : Int) (type j : Nat) (r : Int)
    (x y : Option Bytes) (s s' : Nat) (hon : Net.Honest K me0 j)
    (h1 : Net.voteAt K me0 g0 as height type j r x s) (h2 : Net.voteAt K me0 g0 as height type j r y s') : x = y :=
  Net.one_vote_per_round setting type j r x y s s' hon h1 h2

/-- freshly started nodes are a legitimate initial state -/
theorem started_nodes_satisfy_the_setting (V : List VoteSet.Validator) (pos : ∀ val ∈ V, 0 ≤ val.power)
    (cfg : Node.Cfg) (height : Int) (vals : ValSet.ValSet) (hV : Node.vsVals vals = V) (i : Nat) (skip : Bool)
    (tab : List (Node.Name × Int × Bool)) :
    Node.Full V (some i) (Node.start cfg height vals (some i) skip tab) [] :=
  Node.start_full V pos cfg height vals hV i skip tab

/-- non-vacuity: four equal validators, three honest nodes, a 33-step schedule with proposal, parts,
    prevotes and precommits exchanged between the nodes: the setting holds (the run is valid, every
    delivered vote was signed by its node) and all three nodes commit "b" at height 1 -/
example : Net.Setting 3 Net.V4 (fun k => some k) Net.g4 Net.sched4 ∧
    ∀ k, k < 3 → Node.Emit.commit 1 [0x62] ∈ ((Net.stateAt Net.g4 Net.sched4 Net.sched4.length).node k).out :=
  ⟨Net.setting4, Net.commits4⟩

end AnnVerif.C01
