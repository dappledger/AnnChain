/-
  C03 — No equivocation: at most one signature per height/round/step, across restarts.

  Model: Model/Signer.lean (signBytesHRS + save + WriteFileAtomic + reload). A request sequence is
  any list of signing requests (any heights, rounds, steps, bytes — repeats and regressions
  included), each with any outcome of its durable write (ok / error / killed before the rename /
  killed after the rename), interleaved with kills-and-restarts between requests.
-/
import AnnVerif.Lemmas.Signer
namespace AnnVerif.C03
open AnnVerif AnnVerif.Signer

/-- lexicographic order on (height, round, step) -/
def lexLe (a b : Int × Int × Int) : Prop :=
  a.1 < b.1 ∨ (a.1 = b.1 ∧ (a.2.1 < b.2.1 ∨ (a.2.1 = b.2.1 ∧ a.2.2 ≤ b.2.2)))

/-- (repaired) memory and file never diverge -/
theorem mem_eq_disk_step (st : St) (op : Op) (h : st.mem = st.disk) :
    (step repaired st op).1.mem = (step repaired st op).1.disk :=
  (step_spec st h op).1

/-- (repaired) DURABLE BEFORE IT LEAVES: whenever a signature is released, the file already holds
    exactly that height/round/step and those bytes. -/
theorem durable_before_release (st : St) (hmd : st.mem = st.disk) (h r s : Int) (b : Bytes)
    (w : Write) (h' r' s' : Int) (b' : Bytes)
    (hrel : (sign repaired st h r s b w).2 = .released h' r' s' b') :
    (sign repaired st h r s b w).1.disk = ⟨h', r', s', some b'⟩ := by
  obtain ⟨hdisk, -, hrec⟩ := sign_spec st hmd h r s b w
  rw [← hdisk]
  refine hrec (h', r', s', b') ?_
  rw [hrel]
  exact List.mem_singleton_self _

/-- C03 (repaired) NO EQUIVOCATION and NO REGRESSION, for every request sequence with every write
    outcome and every crash point: the released (height, round, step) never decrease, and two
    releases for the same height/round/step carry the same bytes (the identical signature). -/
theorem no_equivocation_no_regression (ops : List Op) : ∀ (st : St), st.mem = st.disk →
    List.Pairwise (fun x y : Int × Int × Int × Bytes =>
      lexLe (x.1, x.2.1, x.2.2.1) (y.1, y.2.1, y.2.2.1) ∧
      ((x.1, x.2.1, x.2.2.1) = (y.1, y.2.1, y.2.2.1) → x.2.2.2 = y.2.2.2))
      (run repaired st ops).2 := by
  intro st hmd
  refine (run_pairwise_adv ops st hmd).imp fun {x y} hxy => ?_
  -- the later release is the same record, or stands strictly higher
  rcases hxy with he | hlt
  · simp only [recOf, Rec.mk.injEq, Option.some.injEq] at he
    exact ⟨by simp only [lexLe]; omega, fun _ => he.2.2.2.symm⟩
  · simp only [Rec.below, recOf] at hlt
    simp only [lexLe, Prod.mk.injEq]
    omega

/-- C03 AS FOUND the property is FALSE: the error of `save()` is dropped, so
    sign(1,0,prevote,A) with a failing write still releases A; after a kill and restart the
    signer knows nothing about it and signs B for the same height/round/step. -/
theorem asFound_equivocates :
    (run asFound init [.sign 1 0 2 [0xA] .fail, .restart, .sign 1 0 2 [0xB] .ok]).2 =
      [(1, 0, 2, [0xA]), (1, 0, 2, [0xB])] ∧
    (run repaired init [.sign 1 0 2 [0xA] .fail, .restart, .sign 1 0 2 [0xB] .ok]).2 =
      [(1, 0, 2, [0xB])] := by decide

/-! ### non-vacuity -/
example : init.mem = init.disk := rfl
example : (run repaired init [.sign 1 0 1 [1] .ok, .sign 1 0 2 [2] .crashAfter, .sign 1 0 2 [2] .ok,
    .sign 1 0 2 [3] .ok, .restart, .sign 1 0 1 [9] .ok, .sign 2 0 1 [4] .crashBefore,
    .sign 2 0 1 [5] .ok]).2 = [(1, 0, 1, [1]), (1, 0, 2, [2]), (2, 0, 1, [5])] := by decide

end AnnVerif.C03
