/-
  C04 — Locking discipline: votes follow the proof-of-lock rules.

  Model: Model/Node.lean. The theorems below are TRANSITION-LOCAL: each one characterises, for
  EVERY node state and every argument, what one of the transition functions of state.go can emit
  or change. Together they are the decision logic of the locking rules stated outright:

    L1  a non-nil precommit is queued only by `enterPrecommit`, only for the block that has +2/3
        prevotes in the node's own prevote set of that round (with C15.majority_sound: it received
        validly signed prevotes of distinct validators holding > 2/3);
    L2  while a block is locked, `doPrevote` prevotes exactly that block; the lock is released only
        by `unlock`, which is reached only (a) in `enterPrecommit` on a +2/3 prevote majority for
        nil or for another block in that round, (b) in `addVote` on a +2/3 prevote majority for
        another block in a round in (lockedRound, round], (c) by the commit of the height;
    L3  when it is proposer and locked, `decideProposal` proposes the locked block;
    L4  `finalizeCommit` emits a commit only for the block with +2/3 precommits in ONE round
        (commitRound), and only if the block is valid;
    L5  a non-nil prevote is for the locked block or for a block that passed validation.

  Over every RUN from a fresh node `Node.start` - any validity oracle (which blocks ValidateBlock
  accepts is an input of the model), the NewHeight timeout a started node has scheduled - under
  any sequence of peer messages from any peers, own queued messages, peer +2/3 claims and timeouts (
  Lemmas/NodeMono.lean, Lemmas/Assembled.lean - inductive invariants through every handler):
    L6  the node never goes back: (height, round, step) only grows lexicographically; every own
        vote is signed for the height and round the node is in (`signAddVote`), so the votes of a
        run are in non-decreasing (height, round) order - a lock taken in round r is never followed
        by a vote of an earlier round;
    L7  a commit is emitted only with the block's complete part set (C08.X10);
    L8  L1 lifted to the history (Lemmas/NodeJust.lean): `signed` is the list of all votes the node
        has ever signed (a ghost field, appended by `signAddVote`, read by nothing); every precommit
        for a block in it, signed at the node's current height, names a block for which the node's
        prevote set of that round reports +2/3, in every state of every run from a fresh node, for every vote set content peers can produce - for every run whose timeouts are
        ones the node scheduled (`Scheduled`: the ticker relays nothing else). That such a run
        never fires a timeout for a round the node has not entered is itself proved
        (Lemmas/NodeMono.lean: every scheduled timeout is for a round the node has entered).

    L9  proof of lock, over every run (Lemmas/NodeJust.lean): whenever the node holds a lock, its
        prevote set of `lockedRound` reports +2/3 for the locked block - a lock is taken or renewed
        only on that majority, and with L2 (`doPrevote` prevotes the locked block) every prevote
        cast under a lock is for a block that had a polka in the lock's round.
    L10 the locking rule over the node's history (Lemmas/NodeA3.lean), the statement of C04's first
        sentence: if the node has signed a precommit for block b in round r and LATER signs a
        prevote for something else in a round r' > r of that height, then its own prevote sets
        report +2/3 for something other than b in a round r'' with r < r'' ≤ r' - in every state
        of every run from a fresh node whose timeouts are scheduled ones. (`signed` is in signing
        order, so "later" is a position in it; the polka is in the node's vote sets from the
        moment of signing on.)  This is assumption A3 of the timed agreement theorem (C01).
    L11 no equivocation in a run (same invariant): no two votes of the signing history share
        height, round and type - the node signs a prevote only before it stands in Prevote of that
        round and a precommit only before Precommit, and never for a round it has left. (Across
        crashes this is the signer's job: C03.)  This is assumption A1.
  PARTIAL (named): L3 (the proposer proposes its locked block) is transition-local only; runs that
  contain a crash and a WAL replay are covered by C07's replay theorems plus the c07 engine, not by
  these run invariants (the ghost history does not survive `Wal.restart`).
-/
import AnnVerif.Model.Node
import AnnVerif.Lemmas.NodeMono
import AnnVerif.Lemmas.NodeJust
import AnnVerif.Lemmas.NodeA3
import AnnVerif.Lemmas.NodeStart
namespace AnnVerif.C04
open AnnVerif AnnVerif.Node

def Appended (n n' : Node) (extra : List Msg) : Prop := n'.queue = n.queue ++ extra

/-- L1: everything `enterPrecommit` queues is a precommit that is either nil or for the block that
    holds the +2/3 prevote majority of round `r` in the node's own vote set. -/
theorem enterPrecommit_emits (n : Node) (h r : Int) :
    ∃ extra, Appended n (enterPrecommit n h r) extra ∧
      ∀ m ∈ extra, ∃ v, m = .vote v true ∧ v.type = 2 ∧ v.height = n.height ∧
        (v.bid = bidOf [] ∨ maj23 (prevotes n r) = some v.bid) := by
  let P (n' : Node) : Prop := ∃ extra, Appended n n' extra ∧
    ∀ m ∈ extra, ∃ v, m = .vote v true ∧ v.type = 2 ∧ v.height = n.height ∧
      (v.bid = bidOf [] ∨ maj23 (prevotes n r) = some v.bid)
  have quiet : ∀ n0 : Node, n0.queue = n.queue → P n0 := fun n0 hq => ⟨[], by simp [Appended, hq], by simp⟩
  have key : ∀ (n0 : Node) (bid : VoteSet.BlockID), n0.queue = n.queue → n0.height = n.height →
      (bid = bidOf [] ∨ maj23 (prevotes n r) = some bid) →
      P { signAddVote n0 2 bid with round := r, step := Step.precommit } := by
    intro n0 bid hq hh hb
    rcases signAddVote_queue n0 2 bid with e | ⟨i, a, e⟩
    · exact quiet _ (e.trans hq)
    · exact ⟨[_], e.trans (by rw [hq]), fun m hm => ⟨_, List.mem_singleton.mp hm, rfl, hh, hb⟩⟩
  show P (enterPrecommit n h r)
  unfold enterPrecommit
  refine iteInduction (fun _ => quiet n rfl) fun _ => ?_
  dsimp only
  split
  · exact key n _ rfl rfl (Or.inl rfl)
  · rename_i blockID hmaj
    refine iteInduction (fun _ => quiet _ rfl) fun _ => ?_
    -- a polka for nil: nil, from a state that differs from `n` in the lock
    refine iteInduction (fun _ => key _ _ (by split <;> rfl) (by split <;> rfl) (Or.inl rfl)) fun _ => ?_
    -- for the locked block, or for the proposal block if valid: that block
    refine iteInduction (fun _ => key _ _ rfl rfl (Or.inr hmaj)) fun _ => ?_
    refine iteInduction (fun _ => ?_) fun _ => ?_
    · exact iteInduction (fun _ => quiet _ rfl) fun _ => key _ _ rfl rfl (Or.inr hmaj)
    -- for a block the node does not hold: nil, from a state that differs in the lock and the parts
    · exact key _ _ (by split <;> rfl) (by split <;> rfl) (Or.inl rfl)

/-- L2 / L5: what `doPrevote` queues: the locked block if there is a lock; otherwise nil or a block
    that passed validation. -/
theorem doPrevote_emits (n : Node) :
    ∃ extra, Appended n (doPrevote n) extra ∧
      ∀ m ∈ extra, ∃ v, m = .vote v true ∧ v.type = 1 ∧
        (match n.lockedBlock with
         | some b => v.bid = bidOf b
         | none => v.bid = bidOf [] ∨ ∃ b, n.proposalBlock = some b ∧ isValid n b = true ∧ v.bid = bidOf b) := by
  obtain ⟨bid, hb, e⟩ := doPrevote_eq n
  rw [e]
  rcases signAddVote_queue n 1 bid with q | ⟨i, a, q⟩
  · exact ⟨[], q.trans (List.append_nil _).symm, fun _ h => absurd h List.not_mem_nil⟩
  · exact ⟨[_], q, fun m hm => ⟨_, List.mem_singleton.mp hm, rfl, hb⟩⟩

/-- L2: `enterPrecommit` keeps the lock unless the round's +2/3 prevote majority is for nil or for
    a block other than the locked one. -/
theorem enterPrecommit_keeps_lock (n : Node) (h r : Int) (b : Name) (hl : n.lockedBlock = some b)
    (hkeep : ∀ bid, maj23 (prevotes n r) = some bid → hashesTo (some b) bid.hash = true) :
    (enterPrecommit n h r).lockedBlock = some b := by
  have key : ∀ (n0 : Node) (bid : VoteSet.BlockID), n0.lockedBlock = some b →
      ({ signAddVote n0 2 bid with round := r, step := Step.precommit } : Node).lockedBlock = some b :=
    fun n0 bid h0 => (signAddVote_lock n0 2 bid).1.trans h0
  unfold enterPrecommit
  refine iteInduction (motive := fun m : Node => m.lockedBlock = some b) (fun _ => hl) fun _ => ?_
  dsimp only
  split
  · exact key n _ hl
  · rename_i blockID hmaj
    -- the majority is for the locked block: neither the nil branch nor an unlock is taken
    have hk := hkeep blockID hmaj
    have hne : blockID.hash.isEmpty = false := by
      unfold hashesTo at hk
      simp at hk
      simpa using hk.1
    refine iteInduction (motive := fun m : Node => m.lockedBlock = some b) (fun _ => hl) fun _ => ?_
    rw [if_neg (by simp [hne]), if_pos (by rw [hl]; exact hk)]
    exact key _ _ hl

/-- L3: a locked proposer proposes its locked block. -/
theorem decideProposal_proposes_locked (n : Node) (h r : Int) (b : Name) (hl : n.lockedBlock = some b) :
    ∀ m ∈ (decideProposal n h r).queue, m ∉ n.queue →
      (∃ p s bad, m = .proposal p s bad ∧ p.block = b) ∨ (∃ hh rr, m = .parts hh rr b) := by
  obtain ⟨s, q, f, t, hq, e⟩ := decideProposal_eq n h r
  rw [e]
  intro m hm hnot
  have hm : m ∈ q := (List.mem_append.mp hm).resolve_left hnot
  rcases hq with rfl | ⟨p, i, rfl, hp⟩
  · cases hm
  · rcases List.mem_cons.mp hm with rfl | hm
    · exact Or.inl ⟨p, i, false, rfl, hp b hl⟩
    · exact Or.inr ⟨_, _, hp b hl ▸ List.mem_singleton.mp hm⟩

/-- L4: a commit is emitted only for the block holding the +2/3 precommit majority of ONE round
    (the commit round), and only if that block is valid. -/
theorem finalizeCommit_emits (n : Node) (h : Int) (b : Name)
    (hc : Emit.commit h b ∈ (finalizeCommit n h).out) (hnew : Emit.commit h b ∉ n.out) :
    ∃ bid, maj23 (precommits n n.commitRound) = some bid ∧ nameOf bid = b ∧ isValid n b = true ∧
      n.proposalBlock = some b ∧ n.partsComplete = true := by
  let P (m : Node) : Prop := Emit.commit h b ∈ m.out → ∃ bid,
    maj23 (precommits n n.commitRound) = some bid ∧ nameOf bid = b ∧ isValid n b = true ∧
      n.proposalBlock = some b ∧ n.partsComplete = true
  -- a panic emits no commit
  have loud : ∀ site : String, P (emit n (.panic site)) := fun site hc => by
    simp [emit] at hc; exact absurd hc hnew
  revert hc
  show P _
  unfold finalizeCommit
  refine iteInduction (fun _ hc => absurd hc hnew) fun _ => ?_
  split
  · rename_i bid pb hm hp
    refine iteInduction (fun _ => loud _) fun _ => ?_
    refine iteInduction (fun _ => loud _) fun h2 => ?_
    refine iteInduction (fun _ => loud _) fun h3 => ?_
    refine iteInduction (fun _ => loud _) fun h4 hc => ?_
    simp [emit] at hc
    rcases hc with hc | hc
    · exact absurd hc hnew
    · subst hc
      exact ⟨bid, hm, (Classical.not_not.mp h2).symm, by simpa using h3, hp, by simpa using h4⟩
  · exact loud _

/-! ### non-vacuity: a concrete round in which the rules fire -/

def v4 : ValSet.ValSet := ValSet.newValSet ValSet.repaired
  [⟨[1], 1, 0⟩, ⟨[2], 1, 0⟩, ⟨[3], 1, 0⟩, ⟨[4], 1, 0⟩]

/-- node 1 of 4 (not the proposer of round 0) receives a proposal for block "b", the parts, two
    more prevotes for it (with its own: a polka), and then precommits it and holds the lock -/
def demo : Node :=
  let n := Node.init repaired 1 v4 (some 1) false
  let n := { n with validTab := [([0x62], 1, true)] }
  let n := handleTimeout n 1 0 .newHeight
  let n := handleMsg n (.proposal ⟨1, 0, [0x62], -1, []⟩ 0 false) "p"
  let n := handleMsg n (.parts 1 0 [0x62]) "p"
  let drain (n : Node) : Node := match n.queue with
    | m :: rest => handleMsg { n with queue := rest } m ""
    | [] => n
  let n := drain n
  let n := handleMsg n (.vote ⟨0, [1], 1, 0, 1, bidOf [0x62], 1⟩ true) "p0"
  let n := handleMsg n (.vote ⟨2, [3], 1, 0, 1, bidOf [0x62], 2⟩ true) "p2"
  drain n

example : demo.lockedBlock = some [0x62] ∧ demo.lockedRound = 0 ∧ demo.step = .precommit := by decide

/-- L6: after ANY sequence of inputs the node stands at a (height, round, step) at least as far as
    where it started - nothing a peer sends and no timeout takes it back. -/
theorem run_never_goes_back (n : Node) (ins : List In) : Le n (ins.foldl stepIn n) := le_run ins n

/-- one input: spelled out -/
theorem step_never_goes_back (n : Node) (i : In) :
    n.height < (stepIn n i).height ∨
    (n.height = (stepIn n i).height ∧
      (n.round < (stepIn n i).round ∨
       (n.round = (stepIn n i).round ∧ n.step.toNat ≤ (stepIn n i).step.toNat))) := le_stepIn n i

/-- own votes carry the node's current height and round -/
theorem own_vote_is_for_current_round (n : Node) (t : Nat) (bid : VoteSet.BlockID) :
    ∀ m ∈ (signAddVote n t bid).queue, m ∈ n.queue ∨
      ∃ i a, m = .vote ⟨i, a, n.height, n.round, t, bid, 0⟩ true := by
  intro m hm
  rcases signAddVote_queue n t bid with e | ⟨i, a, e⟩
  · exact Or.inl (e ▸ hm)
  · exact (List.mem_append.mp (e ▸ hm)).imp_right fun h => ⟨i, a, List.mem_singleton.mp h⟩

/-- L7: in a run from a fresh (repaired) node a commit is only ever emitted by `finalizeCommit`
    holding the complete part set of the block: the save panic is never emitted. -/
theorem run_commits_complete_blocks (height : Int) (vals : ValSet.ValSet) (me : Option Nat) (skip : Bool)
    (tab : List (Name × Int × Bool)) (ins : List In) : savePanic ∉ (ins.foldl stepIn (Node.start repaired height vals me skip tab)).out :=
  (run_good ins _ (start_good height vals me skip tab)).nsp

example : Le (Node.init repaired 1 v4 (some 1) false) demo ∧ demo.step = .precommit := by
  refine ⟨?_, by decide⟩
  unfold Le; decide

/-! ### L8: no precommit without a polka, over every run -/

/-- in every state of every run (timeouts only for rounds the node has entered) every own
    precommit for a block that waits in the node's queue, signed at the node's height, names the
    block that has +2/3 prevotes in the node's prevote set of the vote's round -/
theorem run_no_precommit_without_polka (cfg : Cfg) (height : Int) (vals : ValSet.ValSet) (me : Option Nat)
    (skip : Bool) (tab : List (Name × Int × Bool)) (ins : List In) (hok : RunOK (Node.start cfg height vals me skip tab) ins)
    (v : VoteSet.Vote)
    (hq : v ∈ (ins.foldl stepIn (Node.start cfg height vals me skip tab)).signed)
    (ht : v.type = 2) (hh : v.height = (ins.foldl stepIn (Node.start cfg height vals me skip tab)).height)
    (hb : v.bid.hash.isEmpty = false) :
    maj23 (prevotes (ins.foldl stepIn (Node.start cfg height vals me skip tab)) v.round) = some v.bid :=
  (run_qj ins _ (start_qj cfg height vals me skip tab) hok _ hq).2 ht hh hb

/-- L8 for the runs that happen: every timeout that fires is one the node scheduled -/
theorem run_no_precommit_without_polka_scheduled (cfg : Cfg) (height : Int) (vals : ValSet.ValSet) (me : Option Nat)
    (skip : Bool) (tab : List (Name × Int × Bool)) (ins : List In) (hs : Scheduled (Node.start cfg height vals me skip tab) ins)
    (v : VoteSet.Vote)
    (hq : v ∈ (ins.foldl stepIn (Node.start cfg height vals me skip tab)).signed)
    (ht : v.type = 2) (hh : v.height = (ins.foldl stepIn (Node.start cfg height vals me skip tab)).height)
    (hb : v.bid.hash.isEmpty = false) :
    maj23 (prevotes (ins.foldl stepIn (Node.start cfg height vals me skip tab)) v.round) = some v.bid :=
  run_no_precommit_without_polka cfg height vals me skip tab ins
    (runOK_of_scheduled ins _ (start_sched cfg height vals me skip tab) hs) v hq ht hh hb

/-- every timeout a node has scheduled, in any run, is for a round it has entered -/
theorem scheduled_timeouts_not_ahead (cfg : Cfg) (height : Int) (vals : ValSet.ValSet) (me : Option Nat)
    (skip : Bool) (tab : List (Name × Int × Bool)) (ins : List In) (h r : Int) (s : Step)
    (he : Emit.timeout h r s ∈ (ins.foldl stepIn (Node.start cfg height vals me skip tab)).out) :
    NotAhead (ins.foldl stepIn (Node.start cfg height vals me skip tab)) h r :=
  sched_run ins _ (start_sched cfg height vals me skip tab) _ he

/-- the invariant is inductive from any state that satisfies it -/
theorem step_keeps_precommits_justified (n : Node) (i : In) (q : QJ n) (hw : WellTimed n i) : QJ (stepIn n i) :=
  stepIn_keeps_timed (fun m q => QJ.ext q (Ext.move m)) n i q hw

/-- non-vacuity: `demo` has signed a prevote and a precommit for "b", and the polka is in its
    prevote set of round 0 -/
example : demo.signed.map (fun v => (v.type, v.round, v.bid.hash)) = [(1, 0, [0x62]), (2, 0, [0x62])] ∧
    maj23 (prevotes demo 0) = some (bidOf [0x62]) := by decide

/-! ### L9: proof of lock, over every run -/

theorem run_lock_backed_by_polka (cfg : Cfg) (height : Int) (vals : ValSet.ValSet) (me : Option Nat) (skip : Bool)
    (tab : List (Name × Int × Bool)) (ins : List In) (b : Name)
    (hl : (ins.foldl stepIn (Node.start cfg height vals me skip tab)).lockedBlock = some b) :
    ∃ bid, maj23 (prevotes (ins.foldl stepIn (Node.start cfg height vals me skip tab))
        (ins.foldl stepIn (Node.start cfg height vals me skip tab)).lockedRound) = some bid ∧ bid.hash = b :=
  lj_run ins _ (start_lj cfg height vals me skip tab) b hl

/-- inductive from any state that satisfies it -/
theorem step_keeps_lock_backed (n : Node) (i : In) (l : LJ n) : LJ (stepIn n i) := stepIn_keeps LJ.move n i l

example : LJ demo ∧ demo.lockedBlock = some [0x62] := by
  have hl : demo.lockedBlock = some [0x62] := by decide
  refine ⟨fun b hb => ⟨bidOf [0x62], by decide, ?_⟩, hl⟩
  cases hl.symm.trans hb
  rfl

/-! ### L10: the locking rule over the node's history -/

theorem run_lock_rule (cfg : Cfg) (height : Int) (vals : ValSet.ValSet) (me : Option Nat) (skip : Bool)
    (tab : List (Name × Int × Bool)) (ins : List In) (hs : Scheduled (Node.start cfg height vals me skip tab) ins) :
    A3Inv (ins.foldl stepIn (Node.start cfg height vals me skip tab)) :=
  a3_run ins _ (start_a3 cfg height vals me skip tab)
    (runOK_of_scheduled ins _ (start_sched cfg height vals me skip tab) hs)

/-- what `A3Inv` says about two votes of the history, spelled out -/
theorem lock_rule_spelled_out (n : Node) (inv : A3Inv n) (i j : Nat) (hij : i < j) (hj : j < n.signed.length)
    (h1 : (n.signed[i]'(by omega)).type = 2) (h2 : (n.signed[i]'(by omega)).bid.hash.isEmpty = false)
    (h3 : (n.signed[i]'(by omega)).height = n.height)
    (h4 : (n.signed[j]).type = 1) (h5 : (n.signed[j]).height = n.height)
    (h6 : (n.signed[i]'(by omega)).round < (n.signed[j]).round)
    (h7 : (n.signed[j]).bid.hash ≠ (n.signed[i]'(by omega)).bid.hash) :
    ∃ r'' bid'', (n.signed[i]'(by omega)).round < r'' ∧ r'' ≤ (n.signed[j]).round ∧
      maj23 (prevotes n r'') = some bid'' ∧ bid''.hash ≠ (n.signed[i]'(by omega)).bid.hash :=
  inv.g3 i j hij hj ⟨h1, h2, h3⟩ h4 h5 h6 h7

/-- L11: no two signed votes share height, round and type -/
theorem run_signs_once_per_round (cfg : Cfg) (height : Int) (vals : ValSet.ValSet) (me : Option Nat) (skip : Bool)
    (tab : List (Name × Int × Bool)) (ins : List In) (hs : Scheduled (Node.start cfg height vals me skip tab) ins)
    (i j : Nat) (hij : i < j) (hj : j < (ins.foldl stepIn (Node.start cfg height vals me skip tab)).signed.length) :
    ¬ (((ins.foldl stepIn (Node.start cfg height vals me skip tab)).signed[i]'(by omega)).height =
          ((ins.foldl stepIn (Node.start cfg height vals me skip tab)).signed[j]).height ∧
       ((ins.foldl stepIn (Node.start cfg height vals me skip tab)).signed[i]'(by omega)).round =
          ((ins.foldl stepIn (Node.start cfg height vals me skip tab)).signed[j]).round ∧
       ((ins.foldl stepIn (Node.start cfg height vals me skip tab)).signed[i]'(by omega)).type =
          ((ins.foldl stepIn (Node.start cfg height vals me skip tab)).signed[j]).type) :=
  (run_lock_rule cfg height vals me skip tab ins hs).uniq i j hij hj

/-- inductive from any state that satisfies the invariant -/
theorem step_keeps_lock_rule (n : Node) (inp : In) (i : A3Inv n) (hw : WellTimed n inp) : A3Inv (stepIn n inp) :=
  stepIn_keeps_timed A3Inv.move n inp i hw

end AnnVerif.C04
