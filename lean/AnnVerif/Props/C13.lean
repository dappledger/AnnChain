/-
  C13 — Fast sync applies only blocks justified by +2/3 commits; ends in the same state.

  Theorems about Model/Sync.lean (pool, SYNC_LOOP iteration, verifier, executer, leaving fast sync):

  S1  complete_applied            an iteration that stores and executes a block has verified, for the
                                  PEEKED block's id and height, a commit with > 2/3 of the power of the
                                  validator set in force in the syncing state, and the block passed the
                                  whole of ValidateBlock against that state; exactly that block is
                                  appended, the state advances by the application's rule
  S2  complete_not_applied        any other outcome leaves chain state and applied list untouched
  S3  complete_ignores_pool       (repaired) what is verified, applied and reported does not depend on
                                  what peers did to the pool between PeekTwoBlocks and the verdict
  S4  run_inv                     for EVERY sequence of serve / remove / iteration steps, with arbitrary
                                  blocks handed to the iteration: the k-th applied block has height k+1,
                                  links to its predecessor, and was justified under the validator set in
                                  force at its height, the sets evolving by the application's changes
  S5  applied_is_source           if two justified ids at one height are always equal (the conclusion of
                                  C01.agreement for < 1/3 Byzantine power), everything applied is the
                                  source chain's block: forged, altered, out-of-order blocks are never
                                  applied, whatever was served in whatever order
  S6  serve_wrong_peer / serve_occupied / serve_incomplete / removePeer_clears / pop_height
                                  the pool's bookkeeping
  S7  verify_ok_slots, verified_commit_rebuilds, applied_can_leave
                                  (repaired) a verified commit names in every slot the validator of
                                  that slot; `reconstructLastCommit` adds every one of its precommits
                                  and finds the +2/3 majority (loop invariant in Lemmas/Reconstruct.lean);
                                  so a node that applied a block by fast sync can leave fast sync
  counter-theorems                as found: a commit that verifies but cannot be rebuilt (the node
                                  panics when it leaves fast sync, and at every later start); RedoRequest
                                  panics when the block has gone; a response without LastCommit panics
                                  the verifier.
-/
import AnnVerif.Model.Sync
import AnnVerif.Model.Handoff
import AnnVerif.Lemmas.BlockValid
import AnnVerif.Lemmas.Reconstruct
import AnnVerif.Lemmas.Handoff
import AnnVerif.Lemmas.Sync
namespace AnnVerif.C13
open AnnVerif AnnVerif.VoteSet AnnVerif.Block AnnVerif.Sync

theorem complete_applied (cfg : Sync.Cfg) (ch : Changes) (vh : Int → Bytes) (sigok : Nat → Vote → Bool)
    (s s' : St) (first second : Served)
    (hpos : ∀ val ∈ s.cs.validators, 0 ≤ val.power)
    (h : complete cfg ch vh sigok s first second = (s', .applied)) :
    CommitJustifies sigok s.cs.validators first.id first.blk.hdr.height second.blk.commit ∧
    validateBlock cfg.blk sigok s.cs first.blk = .ok ∧
    s'.applied = s.applied ++ [(first, second)] ∧
    s'.cs = advanceState ch vh s.cs first ∧
    s'.pool = pop s.pool ∧
    verifyCommit cfg.blk.vs sigok s.cs.validators first.id first.blk.hdr.height second.blk.commit = .ok := by
  rcases complete_cases cfg ch vh sigok s first second with ⟨_, _, hv, hb, heq⟩ | ⟨hne, _, _⟩
  · rw [heq] at h
    cases h
    exact ⟨verifyCommit_sound _ sigok _ _ _ _ hpos hv, hb, rfl, rfl, rfl, hv⟩
  · rw [h] at hne
    exact absurd rfl hne

theorem complete_not_applied (cfg : Sync.Cfg) (ch : Changes) (vh : Int → Bytes) (sigok : Nat → Vote → Bool)
    (s : St) (first second : Served)
    (h : (complete cfg ch vh sigok s first second).2 ≠ .applied) :
    (complete cfg ch vh sigok s first second).1.cs = s.cs ∧
    (complete cfg ch vh sigok s first second).1.applied = s.applied := by
  rcases complete_cases cfg ch vh sigok s first second with ⟨_, _, _, _, heq⟩ | ⟨_, h1, h2⟩
  · rw [heq] at h
    exact absurd rfl h
  · exact ⟨h1, h2⟩

theorem trySync_applied (cfg : Sync.Cfg) (ch : Changes) (vh : Int → Bytes) (sigok : Nat → Vote → Bool)
    (s s' : St) (hpos : ∀ val ∈ s.cs.validators, 0 ≤ val.power)
    (h : trySync cfg ch vh sigok s = (s', .applied)) :
    ∃ first second, s.pool.block s.pool.height = some first ∧ s.pool.block (s.pool.height + 1) = some second ∧
      CommitJustifies sigok s.cs.validators first.id first.blk.hdr.height second.blk.commit ∧
      s'.applied = s.applied ++ [(first, second)] := by
  unfold trySync peek at h
  split at h
  · rename_i first second hp
    simp only [Prod.mk.injEq] at hp
    obtain ⟨a, _, c, _, _, _⟩ := complete_applied cfg ch vh sigok s s' first second hpos h
    exact ⟨first, second, hp.1, hp.2, a, c⟩
  · cases h

/-! ### S3: time of check = time of use -/

/-- repaired: the pool as it is after the peek influences neither the verdict nor what is applied -/
theorem complete_ignores_pool (cfg : Sync.Cfg) (hr : cfg.redoTolerant = true) (ch : Changes) (vh : Int → Bytes)
    (sigok : Nat → Vote → Bool) (s1 s2 : St) (first second : Served)
    (hcs : s1.cs = s2.cs) (happ : s1.applied = s2.applied) :
    (complete cfg ch vh sigok s1 first second).2 = (complete cfg ch vh sigok s2 first second).2 ∧
    (complete cfg ch vh sigok s1 first second).1.cs = (complete cfg ch vh sigok s2 first second).1.cs ∧
    (complete cfg ch vh sigok s1 first second).1.applied = (complete cfg ch vh sigok s2 first second).1.applied := by
  obtain ⟨cs1, p1, a1⟩ := s1
  obtain ⟨cs2, p2, a2⟩ := s2
  cases hcs
  cases happ
  unfold complete
  simp only [hr, if_true, Bool.not_eq_true']
  by_cases hc : second.hasCommit = false
  · rw [if_pos hc, if_pos hc]; exact ⟨rfl, rfl, rfl⟩
  rw [if_neg hc, if_neg hc]
  split
  · by_cases hf : first.complete = false
    · rw [if_pos hf, if_pos hf]; exact ⟨rfl, rfl, rfl⟩
    rw [if_neg hf, if_neg hf]
    split <;> exact ⟨rfl, rfl, rfl⟩
  · exact ⟨rfl, rfl, rfl⟩
  · -- the one place where the pool is read: the block is still there or has gone, it is `redo` either way
    cases p1.block first.blk.hdr.height <;> cases p2.block first.blk.hdr.height <;> exact ⟨rfl, rfl, rfl⟩

/-- what the environment and the reactor can do; an iteration may be handed ANY two blocks (the
    ones it peeked at some earlier time) -/
inductive Op where
  | serve (assigned : String) (b : Served)
  | remove (peer : String)
  | iterate (first second : Served)

def stepOp (cfg : Sync.Cfg) (ch : Changes) (vh : Int → Bytes) (sigok : Nat → Vote → Bool) (s : St) : Op → St
  | .serve a b => { s with pool := (serve cfg s.pool a b).1 }
  | .remove p => { s with pool := removePeer s.pool p }
  | .iterate f sec => (complete cfg ch vh sigok s f sec).1

def run (cfg : Sync.Cfg) (ch : Changes) (vh : Int → Bytes) (sigok : Nat → Vote → Bool) (s : St) (ops : List Op) : St :=
  ops.foldl (stepOp cfg ch vh sigok) s

theorem run_inv (cfg : Sync.Cfg) (ch : Changes) (vh : Int → Bytes) (sigok : Nat → Vote → Bool)
    (g : List Validator) (gp : BlockID) (hg : ∀ v ∈ g, 0 ≤ v.power)
    (hch : ∀ h pos pw, ch h = some (pos, pw) → 0 ≤ pw)
    (ops : List Op) (s : St) (inv : ChainInv sigok ch g gp s) :
    ChainInv sigok ch g gp (run cfg ch vh sigok s ops) := by
  refine List.foldlRecOn ops _ inv fun s inv op _ => ?_
  cases op with
  | serve a b => exact inv.congr rfl rfl
  | remove p => exact inv.congr rfl rfl
  | iterate f sec => exact iterate_inv cfg vh hg hch s f sec inv

/-- the state a node starts fast sync in -/
def initial (chain : String) (g : List Validator) (gp : BlockID) (vh1 : Bytes) : St :=
  ⟨⟨chain, 0, gp, [], [], g, [], vh1⟩, ⟨1, fun _ => none⟩, []⟩

/-! ### S5: nothing but the committed chain -/

/-- at most one id per height can be justified (C01.agreement: with less than 1/3 Byzantine power two
    commit quorums of one height are for the same block) -/
def UniqueJustified (sigok : Nat → Vote → Bool) (ch : Changes) (g : List Validator) : Prop :=
  ∀ (k : Nat) (b1 b2 : BlockID) (c1 c2 : Commit),
    CommitJustifies sigok (valsAt ch g k) b1 ((k : Int) + 1) c1 →
    CommitJustifies sigok (valsAt ch g k) b2 ((k : Int) + 1) c2 → b1 = b2

theorem applied_is_source (cfg : Sync.Cfg) (ch : Changes) (vh : Int → Bytes) (sigok : Nat → Vote → Bool)
    (chain : String) (g : List Validator) (gp : BlockID) (vh1 : Bytes) (hg : ∀ v ∈ g, 0 ≤ v.power)
    (hch : ∀ h pos pw, ch h = some (pos, pw) → 0 ≤ pw)
    (huniq : UniqueJustified sigok ch g)
    (srcId : Nat → BlockID) (srcCommit : Nat → Commit) (n : Nat)
    (hsrc : ∀ k, k < n → CommitJustifies sigok (valsAt ch g k) (srcId k) ((k : Int) + 1) (srcCommit k))
    (ops : List Op) (k : Nat) (f sec : Served) (hk : k < n)
    (h : (run cfg ch vh sigok (initial chain g gp vh1) ops).applied[k]? = some (f, sec)) :
    f.id = srcId k ∧ f.blk.hdr.height = (k : Int) + 1 := by
  have inv := run_inv cfg ch vh sigok g gp hg hch ops (initial chain g gp vh1)
    ⟨rfl, rfl, rfl, fun k f sec h => nomatch h⟩
  obtain ⟨a, _, c⟩ := inv.each k f sec h
  exact ⟨huniq k _ _ _ _ c (hsrc k hk), a⟩

theorem serve_wrong_peer (cfg : Sync.Cfg) (p : Pool) (assigned : String) (b : Served) (h : assigned ≠ b.peer) :
    (serve cfg p assigned b).2 = false ∧ (serve cfg p assigned b).1.block = p.block := by
  rw [serve_eq, if_pos (.inr (.inr (.inr h)))]
  exact ⟨rfl, rfl⟩

theorem serve_occupied (cfg : Sync.Cfg) (p : Pool) (assigned : String) (b : Served)
    (h : (p.block b.blk.hdr.height).isSome = true) :
    (serve cfg p assigned b).2 = false ∧ (serve cfg p assigned b).1.block = p.block := by
  rw [serve_eq, if_pos (.inr (.inr (.inl h)))]
  exact ⟨rfl, rfl⟩

theorem serve_incomplete (p : Pool) (assigned : String) (b : Served) (h : b.complete = false) :
    (serve Sync.repaired p assigned b).2 = false ∧ (serve Sync.repaired p assigned b).1.block = p.block := by
  rw [serve_eq, if_pos (.inl ⟨rfl, h⟩)]
  exact ⟨rfl, rfl⟩

/-- an accepted block sits at its own height, and only there -/
theorem serve_accepted (cfg : Sync.Cfg) (p : Pool) (assigned : String) (b : Served)
    (h : (serve cfg p assigned b).2 = true) :
    (serve cfg p assigned b).1.block b.blk.hdr.height = some b ∧
    ∀ k, k ≠ b.blk.hdr.height → (serve cfg p assigned b).1.block k = p.block k := by
  rw [serve_eq] at h ⊢
  split at h
  · cases h
  · rename_i hno
    rw [if_neg hno]
    exact ⟨if_pos rfl, fun k hk => if_neg hk⟩

theorem removePeer_clears (p : Pool) (peer : String) (k : Int) (b : Served)
    (h : (removePeer p peer).block k = some b) : b.peer ≠ peer ∧ p.block k = some b := by
  unfold removePeer at h
  simp only at h
  cases hb : p.block k with
  | none => rw [hb] at h; cases h
  | some x =>
    rw [hb] at h
    simp only at h
    split at h
    · cases h
    · rename_i hne; cases h; exact ⟨hne, rfl⟩

theorem pop_height (p : Pool) : (pop p).height = p.height + 1 ∧ (pop p).block p.height = none := by
  simp [pop]

/-- repaired: every precommit of a verified commit names the validator of its slot -/
theorem verify_ok_slots (sigok : Nat → Vote → Bool) (vals : List Validator) (b : BlockID) (height : Int)
    (c : Commit) (h : verifyCommit VoteSet.repaired sigok vals b height c = .ok) :
    ∀ (j : Nat) (v : Vote), c.precommits[j]? = some (some v) →
      v.idx = (j : Int) ∧ ∃ val, vals[j]? = some val ∧ val.addr = v.addr := by
  intro j v hj
  cases hf : firstPrecommit c.precommits with
  | none => exact absurd hj (firstPrecommit_none _ hf j v)
  | some f =>
    obtain ⟨val, hval, _, _, _, _, hslot⟩ := ((verifyCommit_some hf).mp h).2.2.1 j v hj
    exact ⟨(hslot rfl).1, val, hval, (hslot rfl).2.symm⟩

/-- S7 in full (repaired): a commit that `VerifyCommit` accepts is one `reconstructLastCommit` can
    rebuild - every precommit is added, and the rebuilt vote set reports a +2/3 majority. The node
    that stored it as its seen-commit can leave fast sync and can start again. -/
theorem verified_commit_rebuilds (sigok : Nat → Vote → Bool) (vals : List Validator)
    (hpos : ∀ val ∈ vals, 0 ≤ val.power) (haddr : ∀ val ∈ vals, val.addr ≠ [])
    (b : BlockID) (height : Int) (c : Commit)
    (h : verifyCommit VoteSet.repaired sigok vals b height c = .ok) :
    reconstruct VoteSet.repaired sigok vals height c = true := by
  cases hf : firstPrecommit c.precommits with
  | none => exact absurd h (verifyCommit_none hpos hf)
  | some f =>
    obtain ⟨_, _, hp, htally⟩ := (verifyCommit_some hf).mp h
    exact reconstruct_ok sigok vals hpos haddr b height c hf hp htally

/-- S7'': (repaired) a node that has just applied a block by fast sync can leave fast sync - the
    seen-commit it stored is one `reconstructLastCommit` rebuilds -/
theorem applied_can_leave (ch : Changes) (vh : Int → Bytes) (sigok : Nat → Vote → Bool)
    (s s' : St) (first second : Served)
    (hpos : ∀ val ∈ s.cs.validators, 0 ≤ val.power) (haddr : ∀ val ∈ s.cs.validators, val.addr ≠ [])
    (h : complete Sync.repaired ch vh sigok s first second = (s', .applied)) :
    canLeave Sync.repaired sigok s' = true := by
  obtain ⟨_, _, happ, hcs, _, hv⟩ := complete_applied Sync.repaired ch vh sigok s s' first second hpos h
  unfold canLeave
  rw [happ, List.getLast?_append]
  simp only [List.getLast?_singleton, Option.some_or]
  rw [hcs]
  exact verified_commit_rebuilds sigok s.cs.validators hpos haddr first.id first.blk.hdr.height second.blk.commit hv

/-- S8: precommits for nil - or for any other id: another hash, OR the same hash with another part-set
    header, OR no hash at all - justify no block: if no precommit of the commit names exactly `b`
    (header hash AND part-set header), `VerifyCommit` for `b` fails, whatever the signatures -/
theorem precommits_for_something_else_justify_nothing (cfg : VoteSet.Cfg) (sigok : Nat → Vote → Bool)
    (vals : List Validator) (hpos : ∀ val ∈ vals, 0 ≤ val.power) (b : BlockID) (height : Int) (c : Commit)
    (hother : ∀ v, some v ∈ c.precommits → v.bid ≠ b) :
    verifyCommit cfg sigok vals b height c ≠ .ok := by
  intro h
  obtain ⟨_, R, _, ht⟩ := verifyCommit_sound cfg sigok vals b height c hpos h
  obtain ⟨j, v, hj, hb⟩ := tallyB_two_thirds_exists hpos ht
  exact hother v (List.mem_of_getElem? hj) hb

/-! ### counter-theorems: the three defects as found -/

def wVals : List Validator := [⟨[1], 1⟩, ⟨[2], 1⟩, ⟨[3], 1⟩, ⟨[4], 1⟩]
def wB : BlockID := ⟨[0xB1], 1, [0xB2]⟩
/-- the genuine precommits of validators 0, 1, 2 for `wB`; the second one has its address field
    altered (the signature, which does not cover it, still verifies under the key of slot 1) -/
def wCommit : Commit :=
  ⟨wB, [some ⟨0, [1], 5, 0, 2, wB, 11⟩, some ⟨1, [9], 5, 0, 2, wB, 12⟩, some ⟨2, [3], 5, 0, 2, wB, 13⟩, none]⟩
def wSig : Nat → Vote → Bool := fun i v => v.idx == (i : Int)

theorem asFound_verified_commit_cannot_be_rebuilt :
    verifyCommit { VoteSet.repaired with slotCheck := false } wSig wVals wB 5 wCommit = .ok ∧
    reconstruct VoteSet.repaired wSig wVals 5 wCommit = false ∧
    verifyCommit VoteSet.repaired wSig wVals wB 5 wCommit = .slot := by decide

def wHdr (h : Int) : Header := ⟨"c", h, 0, ⟨[], 0, []⟩, [], [], [], [], [], [1]⟩
def wBad : Served := ⟨"p0", ⟨[0xEE], 1, [0xEF]⟩, ⟨wHdr 1, 0, [], [], ⟨⟨[], 0, []⟩, []⟩⟩, true, true⟩
def wSecond : Served := ⟨"p1", ⟨[0xE1], 1, [0xE2]⟩, ⟨wHdr 2, 0, [], [], wCommit⟩, true, true⟩
def wNoCommit : Served := ⟨"p1", ⟨[0xE1], 1, [0xE2]⟩, ⟨wHdr 2, 0, [], [], ⟨⟨[], 0, []⟩, []⟩⟩, false, true⟩
def wSt : St := C13.initial "c" wVals ⟨[], 0, []⟩ []

/-- as found: the block that failed verification has gone from the pool -> PanicSanity; repaired:
    the iteration just ends -/
theorem asFound_redo_panics_when_block_gone :
    (complete Sync.asFound (fun _ => none) (fun _ => []) wSig wSt wBad wSecond).2 = .panic ∧
    (complete Sync.repaired (fun _ => none) (fun _ => []) wSig wSt wBad wSecond).2 = .redo .height := by
  decide

/-- as found: a response without LastCommit is accepted by the pool and panics the verifier;
    repaired: it is dropped on receipt -/
theorem asFound_missing_commit_reaches_verifier :
    (serve Sync.asFound wSt.pool "p1" wNoCommit).2 = true ∧
    (complete Sync.asFound (fun _ => none) (fun _ => []) wSig wSt wBad wNoCommit).2 = .panic ∧
    (serve Sync.repaired wSt.pool "p1" wNoCommit).2 = false := by decide

/-! ### H: the hand-over of a block response (Model/Handoff.lean)

  H1 asFound_early_response_deadlocks   as found a response that precedes its request wedges the node
  H2 wf_step / wf_early                 "the lock is held by whoever is in its critical section" is invariant
  H3 repaired_never_stuck               repaired: in no well-formed state are all three goroutines blocked
  H4 repaired_handoff_returns           repaired: the receiving goroutine always hands over and releases the lock
  H5 repaired_syncer_progress           repaired: the reactor gets the pool lock within three steps, always
-/
section Handoff
open AnnVerif.Handoff

/-- as found: a response that precedes its request wedges the node: the receiving goroutine waits for
    the requester with the pool lock held, the requester waits for room in the request channel, the
    reactor - the only one that makes room - waits for the pool lock -/
theorem asFound_early_response_deadlocks :
    ∃ st, runActs Handoff.asFound early [.vArrive, .vLock, .sTick] = some st ∧
      stuck Handoff.asFound st = true ∧ st.lock = .v ∧ st.s = .wantLock ∧ st.r = .sending := by
  refine ⟨⟨.sending, true, false, false, .inAddBlock, .wantLock, .v⟩, by decide, by decide, rfl, rfl, rfl⟩

theorem wf_early : Handoff.WF early := by simp [Handoff.WF, early]

/-- the same schedule, repaired: nobody is stuck -/
example : (runActs Handoff.repaired early [.vArrive, .vLock, .sTick, .vHandoff, .sLock]).map
    (fun st => (st.s, st.blockSet)) = some (.looking, true) := by decide

theorem wf_step (cfg : Handoff.Cfg) (st st' : Handoff.St) (a : Handoff.Act) (h : Handoff.WF st) (hs : step cfg st a = some st') : Handoff.WF st' :=
  h.step hs

theorem repaired_never_stuck (st : Handoff.St) (h : Handoff.WF st) : stuck Handoff.repaired st = false := by
  -- the reactor itself can move, except when it waits for a lock that the receiving goroutine holds
  cases hs : st.s with
  | draining => exact stuck_false_of_step (step_sTick.mpr ⟨hs, rfl⟩)
  | looking => exact stuck_false_of_step (step_sUnlock.mpr ⟨hs, rfl⟩)
  | wantLock =>
    cases hl : st.lock with
    | free => exact stuck_false_of_step (step_sLock.mpr ⟨⟨hs, hl⟩, rfl⟩)
    | s => rw [h.2.mp hl] at hs; cases hs
    | v =>
      obtain ⟨st', h1⟩ := step_vHandoff_repaired (h.1.mp hl)
      exact stuck_false_of_step h1

theorem repaired_handoff_returns (st : Handoff.St) (h : st.v = .inAddBlock) :
    ∃ st', step Handoff.repaired st .vHandoff = some st' ∧ st'.lock = .free ∧ st'.blockSet = true ∧ st'.v = .done := by
  obtain ⟨st', h1⟩ := step_vHandoff_repaired h
  obtain ⟨_, g1, g2, g3, _⟩ := step_vHandoff h1
  exact ⟨st', h1, g2, g3, g1⟩

theorem repaired_syncer_progress (st : Handoff.St) (h : Handoff.WF st) :
    ∃ acts : List Handoff.Act, acts.length ≤ 3 ∧ ∃ st', runActs Handoff.repaired st acts = some st' ∧ st'.s = .looking := by
  cases hs : st.s with
  | looking => exact ⟨[], by simp, st, rfl, hs⟩
  | wantLock =>
    obtain ⟨acts, hl, r⟩ := lock_within_two h hs
    exact ⟨acts, by omega, r⟩
  | draining =>
    have h1 : step Handoff.repaired st .sTick = some { st with s := .wantLock } := step_sTick.mpr ⟨hs, rfl⟩
    obtain ⟨acts, hl, st', hr, hlook⟩ := lock_within_two (h.step h1) rfl
    exact ⟨.sTick :: acts, by simp only [List.length_cons]; omega, st', by rw [runActs_cons h1]; exact hr, hlook⟩

end Handoff

/-! ### non-vacuity: a real iteration that applies -/

def exVals : List Validator := [⟨[1], 1⟩, ⟨[2], 1⟩, ⟨[3], 1⟩, ⟨[4], 1⟩]
def exId1 : BlockID := ⟨[0xA1], 1, [0xA2]⟩
def exFirst : Served :=
  ⟨"p0", exId1, ⟨⟨"c", 1, 0, ⟨[], 0, []⟩, [0xD0], [0xC0], [0xAA], [], [], [2]⟩, 0, [0xD0], [0xC0], ⟨⟨[], 0, []⟩, []⟩⟩, true, true⟩
def exSecond : Served :=
  ⟨"p1", ⟨[0xA3], 1, [0xA4]⟩, ⟨wHdr 2, 0, [], [],
    ⟨exId1, [some ⟨0, [1], 1, 0, 2, exId1, 1⟩, none, some ⟨2, [3], 1, 0, 2, exId1, 3⟩, some ⟨3, [4], 1, 0, 2, exId1, 4⟩]⟩⟩, true, true⟩
def exSt : St := C13.initial "c" exVals ⟨[], 0, []⟩ [0xAA]

example : (complete Sync.repaired (fun _ => none) (fun _ => []) (fun _ _ => true) exSt exFirst exSecond).2 = .applied := by
  decide
example : (complete Sync.repaired (fun _ => none) (fun _ => []) (fun i _ => i != 3) exSt exFirst exSecond).2 = .redo .sig := by
  decide
example : reconstruct VoteSet.repaired (fun _ _ => true) exVals 1 exSecond.blk.commit = true := by decide

end AnnVerif.C13
