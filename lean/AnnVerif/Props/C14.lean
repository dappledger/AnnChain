/-
  C14 — Validator-set changes need +2/3 of DISTINCT validators and apply uniformly.

  Model: Model/Admin.lean (CheckMajor23, ExecTX/ProcessAdminOP, updateValidators, the account
  nonce discipline) on top of Model/ValSet.lean.  A signature entry carries the oracle bit "this
  signature verifies over exactly this request's message under the entry's key"; the theorems
  hold for every assignment.
-/
import AnnVerif.Lemmas.Admin
namespace AnnVerif.C14
open AnnVerif AnnVerif.ValSet AnnVerif.Admin
-- `specP` tests a predicate on addresses in an `if`; here the predicates are existentials
open Classical

/-- the voting power of the DISTINCT current validators (each validator at most once) with
    positive power for which the request carries a valid signature entry -/
noncomputable def distinctSignedPower (vals : List Val) (sinfos : List SigEntry) : Int :=
  specP vals (fun a => ∃ e ∈ sinfos, e.ok = true ∧ e.addr = a)

/-- C14.1 (repaired) `CheckMajor23` is EXACTLY "distinct valid signers hold more than 2/3":
    duplicates, foreign keys, zero-power validators and invalid signatures contribute nothing. -/
theorem checkMajor23_iff (vals : List Val) (hn : NodupAddr vals) (sinfos : List SigEntry) :
    checkMajor23 Admin.repaired vals sinfos = true ↔
      distinctSignedPower vals sinfos > sumPower vals * 2 / 3 := by
  unfold checkMajor23 distinctSignedPower
  rw [major23Loop_start (cfg := Admin.repaired) rfl hn]
  exact decide_eq_true_iff

/-- … hence strictly more than two thirds of the total -/
theorem checkMajor23_sound (vals : List Val) (hn : NodupAddr vals) (sinfos : List SigEntry)
    (h : checkMajor23 Admin.repaired vals sinfos = true) :
    3 * distinctSignedPower vals sinfos > 2 * sumPower vals := by
  have := (checkMajor23_iff vals hn sinfos).mp h
  omega

/-- C14.2 the ORDER and MULTIPLICITY of the signature entries is irrelevant -/
theorem checkMajor23_order_irrelevant (vals : List Val) (hn : NodupAddr vals)
    (s1 s2 : List SigEntry) (hperm : ∀ e, e ∈ s1 ↔ e ∈ s2) :
    checkMajor23 Admin.repaired vals s1 = checkMajor23 Admin.repaired vals s2 := by
  have e : distinctSignedPower vals s1 = distinctSignedPower vals s2 :=
    specP_congr _ _ _ fun v _ _ => exists_congr fun x => and_congr_left fun _ => hperm x
  have h1 := checkMajor23_iff vals hn s1
  have h2 := checkMajor23_iff vals hn s2
  rw [e] at h1
  rw [Bool.eq_iff_iff, h1, h2]

/-- C14.1' AS FOUND every repeated entry is counted again: one validator with 1/4 of the power,
    listed three times, passes the 2/3 check alone. -/
def w4 : List Val := [⟨[1], 1, 0⟩, ⟨[2], 1, 0⟩, ⟨[3], 1, 0⟩, ⟨[4], 1, 0⟩]

theorem asFound_duplicates_counted :
    checkMajor23 Admin.asFound w4 [⟨[1], true⟩, ⟨[1], true⟩, ⟨[1], true⟩] = true ∧
    checkMajor23 Admin.repaired w4 [⟨[1], true⟩, ⟨[1], true⟩, ⟨[1], true⟩] = false := by decide

/-- C14.3 an under-signed request, an unknown command type, a wrong sender or a wrong nonce
    changes nothing: a change is queued only by an ACCEPTED request. -/
theorem change_only_if_accepted (cfg : Admin.Cfg) (vals : List Val) (from_ : Bytes) (n : Nat)
    (r : Request) (h : (execTx cfg vals from_ n r).2 ≠ none) :
    (execTx cfg vals from_ n r).1 = .accepted true :=
  execTx_cases (J := fun x => x.2 ≠ none → x.1 = .accepted true) cfg vals from_ n r
    (fun _ _ h => absurd rfl h) (fun _ _ _ _ _ => ⟨fun h => absurd rfl h, fun _ => rfl⟩) h

/-- a request is accepted only with +2/3, from its own sender, and only when its nonce is the
    account's nonce (`GetNonce()` is already the tx nonce + 1) -/
theorem accepted_requires (cfg : Admin.Cfg) (vals : List Val) (from_ : Bytes) (n : Nat) (r : Request)
    (c : Bool) (h : (execTx cfg vals from_ n r).1 = .accepted c) :
    checkMajor23 cfg vals r.sinfos = true ∧ from_ = r.attrAddr ∧ r.attrNonce + 1 = n :=
  execTx_cases (J := fun x => x.1 = .accepted c → _) cfg vals from_ n r
    (fun e he h => by
      rw [show e = .accepted c from h] at he
      cases he)
    (fun h1 _ _ h4 h5 => ⟨fun _ => ⟨h1, h4, h5⟩, fun _ => ⟨h1, h4, h5⟩⟩) h

/-- the (sender, nonce) pairs of the requests accepted while running a list of transactions -/
def acceptedKeys (cfg : Admin.Cfg) (vals : List Val) :
    List (Bytes × Nat) → List AdminTx → List (Bytes × Nat)
  | _, [] => []
  | m, tx :: t =>
    let (m', ok) := runTx cfg vals m tx
    (if ok then [(tx.req.attrAddr, tx.req.attrNonce)] else []) ++ acceptedKeys cfg vals m' t

theorem runTx_nonce_mono (cfg : Admin.Cfg) (vals : List Val) (m : List (Bytes × Nat)) (tx : AdminTx)
    (a : Bytes) : nonceOf m a ≤ nonceOf (runTx cfg vals m tx).1 a := by
  unfold runTx
  split
  · exact Nat.le_refl _
  · simp only
    by_cases h : a = tx.sender
    · subst h; rw [nonceOf_bump_self]; omega
    · rw [nonceOf_bump_ne _ _ _ h]; exact Nat.le_refl _

/-- an accepted request has exactly the account's current nonce, and the account nonce is then
    strictly above it -/
theorem runTx_accepted (cfg : Admin.Cfg) (vals : List Val) (m : List (Bytes × Nat)) (tx : AdminTx)
    (h : (runTx cfg vals m tx).2 = true) :
    tx.req.attrNonce = nonceOf m tx.req.attrAddr ∧
    nonceOf (runTx cfg vals m tx).1 tx.req.attrAddr = tx.req.attrNonce + 1 := by
  unfold runTx at h ⊢
  by_cases hn : tx.txNonce ≠ nonceOf m tx.sender
  · rw [if_pos hn] at h
    cases h
  · rw [if_neg hn] at h ⊢
    simp only at h ⊢
    cases hacc : (execTx cfg vals tx.sender (nonceOf (bump m tx.sender) tx.sender) tx.req).1 with
    | accepted c =>
      obtain ⟨_, hfrom, hnon⟩ := accepted_requires cfg vals _ _ _ c hacc
      rw [nonceOf_bump_self] at hnon
      rw [← hfrom, nonceOf_bump_self]
      omega
    | _ =>
      rw [hacc] at h
      cases h

/-- C14.4 REPLAY PROTECTION: over ANY sequence of admin transactions (any senders, nonces, orders,
    repetitions), every accepted (sender, nonce) pair lies below that sender's account nonce
    afterwards — so no signed request is ever accepted twice. -/
theorem accepted_below_nonce (cfg : Admin.Cfg) (vals : List Val) (txs : List AdminTx) :
    ∀ (m : List (Bytes × Nat)) (k : Bytes × Nat), k ∈ acceptedKeys cfg vals m txs →
      nonceOf m k.1 ≤ k.2 := by
  intro m k hk
  fun_induction acceptedKeys cfg vals m txs with
  | case1 => cases hk
  | case2 m tx t m' ok hr ih =>
    have hm' : m' = (runTx cfg vals m tx).1 := by rw [hr]
    rcases List.mem_append.1 hk with hk | hk
    · cases ok with
      | false => cases hk
      | true =>
        cases List.mem_singleton.1 hk
        exact Nat.le_of_eq (runTx_accepted cfg vals m tx (by rw [hr])).1.symm
    · exact Nat.le_trans (runTx_nonce_mono cfg vals m tx k.1) (hm' ▸ ih hk)

theorem no_request_accepted_twice (cfg : Admin.Cfg) (vals : List Val) (txs : List AdminTx) :
    ∀ (m : List (Bytes × Nat)), (acceptedKeys cfg vals m txs).Nodup := by
  intro m
  fun_induction acceptedKeys cfg vals m txs with
  | case1 => exact List.nodup_nil
  | case2 m tx t m' ok hr ih =>
    cases ok with
    | false => exact ih
    | true =>
      refine List.nodup_cons.2 ⟨fun hmem => ?_, ih⟩
      -- the account's nonce is past the accepted one, and whatever is accepted later is not below it
      have h1 := accepted_below_nonce cfg vals t _ _ hmem
      have h2 := (runTx_accepted cfg vals m tx (by rw [hr])).2
      rw [hr] at h2
      simp only at h1 h2
      omega

/-- C14.5 applying accepted changes keeps the set strictly sorted by address (sorted and
    duplicate-free); the next set is a FUNCTION of (current set, ordered accepted changes), hence
    identical on every replica that executed the same block. -/
theorem applyChanges_sorted (cs : List Change) : ∀ (vs vs' : ValSet), Sorted vs.vals →
    applyChanges vs cs = some vs' → Sorted vs'.vals := by
  induction cs with
  | nil =>
    intro vs vs' hs h
    cases h
    exact hs
  | cons c t ih =>
    intro vs vs' hs h
    obtain ⟨v1, hc, h⟩ := Option.bind_eq_some_iff.mp h
    exact ih v1 vs' (applyChange_sorted vs v1 c hs hc) h

/-- C14.6 the ORDER of a block's accepted changes is part of the input: two accepted requests for
    the same node applied in the other order give another validator set (the later one wins), so a
    replica that applied a block's changes in any other order than the order of acceptance - e.g. in
    the iteration order of a map - would end up with another set. (With C14.5: the set is a function
    of the ORDERED changes, and of nothing less.) -/
theorem change_order_matters :
    (applyChanges ⟨w4, none, 0⟩ [⟨.update, [1], 5⟩, ⟨.update, [1], 7⟩]).map (fun vs => powerOf vs.vals [1]) = some (some 7) ∧
    (applyChanges ⟨w4, none, 0⟩ [⟨.update, [1], 7⟩, ⟨.update, [1], 5⟩]).map (fun vs => powerOf vs.vals [1]) = some (some 5) := by
  decide

/-- C14.7 THE LAST CHANGE WINS, for every block: whatever the block's earlier accepted changes did -
    to this node or to others -, if the last one is "update a to p" (a a member by then), the next
    validator set holds a with power p. A replica applying the changes in any order in which another
    change of a comes last ends with another power (C14.6). The membership hypothesis is not needed, and
    the same holds of a last "add a with p": `last_change_sets_power`, Lemmas/Admin.lean -/
theorem the_last_accepted_change_decides (vs vs' : ValSet.ValSet) (cs : List Change) (a : Bytes) (p : Int)
    (h : applyChanges vs (cs ++ [⟨.update, a, p⟩]) = some vs')
    (hm : ∀ mid, applyChanges vs cs = some mid → (powerOf mid.vals a).isSome) :
    powerOf vs'.vals a = some p :=
  last_change_sets_power vs vs' cs .update a p (.inr rfl) h

/-! ### non-vacuity -/
example : NodupAddr w4 := by simp [NodupAddr, w4]
example : checkMajor23 Admin.repaired w4 [⟨[1], true⟩, ⟨[9], true⟩, ⟨[2], false⟩, ⟨[3], true⟩, ⟨[4], true⟩] = true := by
  decide
example : (execTx Admin.repaired w4 [7] 5 ⟨true, true, [7], 4, .add, [9], 3, true,
    [⟨[1], true⟩, ⟨[3], true⟩, ⟨[4], true⟩]⟩) = (.accepted true, some ⟨.add, [9], 3⟩) := by decide

end AnnVerif.C14
