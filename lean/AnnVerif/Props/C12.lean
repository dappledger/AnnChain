/-
  C12 — Liveness: with +2/3 honest and fair delivery every height terminates.  (PARTIAL)

  What is PROVED (timeout ticker, Model/Ticker.lean): the ticker takes a new request exactly when it
  is later than the pending one in the (height, round, step) order — so
    K1  the timeout of a later height is always armed, whatever round the previous height ended in
        (the next height always starts: scheduleRound0 asks for (h+1, 0, NewHeight));
    K2  within a height the timeout of a later round, and within a round of a later step, is armed;
    K3  a request that is not later is ignored and leaves the pending timeout as it is (a stale
        request cannot cancel the timeout the node is waiting for);
    K4  the flattened filter (round compared across heights) drops the NewHeight timeout after a
        height that ended in a round > 0 — counter-theorem, the shape of a realistic regression.
  and (Props/C08): rejected input leaves the node unchanged, so hostile traffic cannot undo progress.
  and (local progress, P1-P6): a node that has what a commit needs commits; +2/3 precommits for a
  valid block are never ignored - entering Commit finalizes at once or waits for exactly that block
  with an incomplete part set, and the arrival of the parts finalizes (P4, P5), in every reachable
  state (P6: two run invariants through every handler).
  What is DECIDED PER RUN, not proved: termination of every height on the real nodes — the c12
  `live` engine runs adversarial prefixes (reordering, loss, duplication, Byzantine validators < 1/3
  that equivocate, crashes with WAL replay) followed by a fair suffix (everything delivered, every
  timeout fired, Byzantine silent) and requires every honest node to get past the highest height of
  the prefix; the `ticker` engine ties the ticker model to the production ticker goroutine.
  NOT exhibited by any model here: goroutine interleavings / lock order of the real receive,
  timeout and gossip routines, and blocking event-switch hooks.
-/
import AnnVerif.Lemmas.Ticker
import AnnVerif.Lemmas.NodeProgress
namespace AnnVerif.C12
open AnnVerif.Ticker

def later (a b : TI) : Prop :=
  a.height < b.height ∨ (a.height = b.height ∧ (a.round < b.round ∨ (a.round = b.round ∧ a.step < b.step)))

/-- the filter is the lexicographic order on (height, round, step) (once a timeout was armed) -/
theorem accept_iff_later (ti nt : TI) (h0 : ti.step > 0) : accept {} ti nt = true ↔ later ti nt := by
  have h : ¬ ti.step = 0 := by omega
  simp only [accept_iff, later, h, false_or]

/-- K1 -/
theorem later_height_always_armed (ti nt : TI) (h : ti.height < nt.height) : accept {} ti nt = true :=
  (accept_iff ti nt).mpr (.inl h)

/-- K2 -/
theorem later_round_or_step_armed (ti nt : TI) (hh : nt.height = ti.height)
    (h : ti.round < nt.round ∨ (ti.round = nt.round ∧ ti.step < nt.step)) : accept {} ti nt = true :=
  (accept_iff ti nt).mpr (.inr ⟨hh.symm, h.imp_right fun h => ⟨h.1, .inr h.2⟩⟩)

/-- K3: an ignored request changes nothing and nothing fires -/
theorem ignored_request_keeps_pending (s : St) (nt : TI) (short : Bool) (h : accept {} s.ti nt = false) :
    schedule {} s nt short = (s, none) := by
  unfold schedule
  simp [h]

/-- an accepted request with an elapsed duration fires exactly that timeout -/
theorem accepted_short_fires (s : St) (nt : TI) (h : accept {} s.ti nt = true) :
    (schedule {} s nt true).2 = some nt := by
  unfold schedule
  simp [h]

/-- K4: height 1 was decided in round 1; the flattened filter drops the NewHeight timeout of
    height 2 (round 0), so the node would never start height 2 -/
theorem flattened_filter_drops_next_height :
    accept ⟨false⟩ ⟨1, 1, 7⟩ ⟨2, 0, 1⟩ = false ∧ accept {} ⟨1, 1, 7⟩ ⟨2, 0, 1⟩ = true := by decide

example : later ⟨1, 1, 7⟩ ⟨2, 0, 1⟩ := Or.inl (by decide)

/-! ### P1-P3: a node that has what a commit needs does commit (local progress)

    No timeout is pending in the Commit step, so these transitions are what termination rests on
    once +2/3 precommits for a block exist: for EVERY node state that satisfies the hypotheses. -/

/-- P1: +2/3 precommits of some round for a block the node holds complete and valid: entering Commit
    finalizes at once - from any earlier step, ANY current round (also a later one than the commit's),
    unlocked or locked on that block -/
theorem commit_when_block_is_there (n : Node.Node) (cr : Int) (bid : VoteSet.BlockID)
    (hs : ¬ Node.Step.commit ≤ n.step) (hm : Node.maj23 (Node.precommits n cr) = some bid) (hne : bid.hash.isEmpty = false)
    (hb : n.proposalBlock = some bid.hash) (hp : n.proposalParts = some bid.hash) (hc : n.partsComplete = true)
    (hv : Node.isValid n bid.hash = true) (hl : n.lockedBlock = none ∨ n.lockedBlock = some bid.hash) :
    Node.Emit.commit n.height bid.hash ∈ (Node.enterCommit n n.height cr).out ∧
    (Node.enterCommit n n.height cr).height = n.height + 1 := by
  rw [Node.enterCommit_eq n cr bid hs hm hne]
  rcases hl with hl | hl
  · rw [if_neg (by rw [hl]; nofun), if_pos (Or.inl hb)]
    exact Node.tryFinalizeCommit_commits _ bid rfl hm hne hb hp hc hv
  · rw [if_pos hl]
    exact Node.tryFinalizeCommit_commits _ bid rfl hm hne rfl rfl rfl hv

/-- P2: a node that entered Commit without the block (it never saw the proposal): when the parts
    arrive - from anybody, with or without a proposal - it finalizes -/
theorem commit_when_parts_arrive (n : Node.Node) (bid : VoteSet.BlockID) (own : Bool)
    (hs : n.step = .commit) (hm : Node.maj23 (Node.precommits n n.commitRound) = some bid) (hne : bid.hash.isEmpty = false)
    (hp : n.proposalParts = some bid.hash) (hc : n.partsComplete = false) (hv : Node.isValid n bid.hash = true) :
    Node.Emit.commit n.height bid.hash ∈ (Node.addParts n n.height bid.hash own).out ∧
    (Node.addParts n n.height bid.hash own).height = n.height + 1 := by
  unfold Node.addParts
  -- the four tests that drop parts let these through; the node is in Commit, not in Propose
  rw [if_neg (Classical.not_not.mpr rfl), if_neg (by simp [hp]), if_neg (by simp [hc]), if_neg fun h => h.1 hp]
  dsimp only
  rw [if_neg (by simp [hs]), if_pos hs]
  exact Node.tryFinalizeCommit_commits _ bid hs hm hne rfl hp rfl hv

/-- P3: finalizing moves to the next height in step NewHeight, whose timeout the ticker always arms (K1) -/
theorem finalize_opens_next_height (n : Node.Node) (bid : VoteSet.BlockID)
    (hs : n.step = .commit) (hm : Node.maj23 (Node.precommits n n.commitRound) = some bid)
    (hb : n.proposalBlock = some bid.hash) (hp : n.proposalParts = some bid.hash) (hc : n.partsComplete = true)
    (hv : Node.isValid n bid.hash = true) :
    (Node.finalizeCommit n n.height).height = n.height + 1 ∧ (Node.finalizeCommit n n.height).step = .newHeight :=
  (Node.finalizeCommit_commits n bid hs hm hb hp hc hv).2

/-- P4: +2/3 precommits for a valid block are NEVER IGNORED. In every state with the two run
    invariants (`Good`, `Cpl` - they hold in every state a node reaches, P6), entering Commit on them
    from any earlier step, any round, any lock, with or without the proposal, either finalizes at
    once or leaves the node in the Commit step waiting for exactly that block with an incomplete
    part set - the hypotheses of P2 -/
theorem two_thirds_precommits_are_never_ignored (n : Node.Node) (cr : Int) (bid : VoteSet.BlockID)
    (hg : Node.Good n) (hcp : Node.Cpl n)
    (hs : ¬ Node.Step.commit ≤ n.step) (hm : Node.maj23 (Node.precommits n cr) = some bid) (hne : bid.hash.isEmpty = false)
    (hv : Node.isValid n bid.hash = true) :
    (Node.Emit.commit n.height bid.hash ∈ (Node.enterCommit n n.height cr).out ∧ (Node.enterCommit n n.height cr).height = n.height + 1) ∨
    ((Node.enterCommit n n.height cr).height = n.height ∧ (Node.enterCommit n n.height cr).step = .commit ∧
      Node.maj23 (Node.precommits (Node.enterCommit n n.height cr) (Node.enterCommit n n.height cr).commitRound) = some bid ∧
      (Node.enterCommit n n.height cr).proposalParts = some bid.hash ∧ (Node.enterCommit n n.height cr).partsComplete = false ∧
      Node.isValid (Node.enterCommit n n.height cr) bid.hash = true) := by
  rw [Node.enterCommit_eq n cr bid hs hm hne]
  by_cases hl : n.lockedBlock = some bid.hash
  · rw [if_pos hl]
    exact Or.inl (Node.tryFinalizeCommit_commits _ bid rfl hm hne rfl rfl rfl hv)
  rw [if_neg hl]
  by_cases hb : n.proposalBlock = some bid.hash
  · obtain ⟨hc, hp⟩ := hg.asm _ hb
    rw [if_pos (Or.inl hb)]
    exact Or.inl (Node.tryFinalizeCommit_commits _ bid rfl hm hne hb hp hc hv)
  right
  by_cases hp : n.proposalParts = some bid.hash
  · -- the part set is incomplete: a complete one comes with its block (`Cpl`), whose parts it is (`Good`)
    have hc : n.partsComplete = false := Bool.eq_false_iff.mpr fun hc => by
      obtain ⟨b, hb'⟩ := Option.isSome_iff_exists.mp (hcp hc)
      exact hb (hb'.trans ((hg.asm b hb').2.symm.trans hp))
    rw [if_pos (Or.inr hp), Node.tryFinalizeCommit_eq { n with step := .commit, commitRound := cr } bid hm hne, if_neg hb]
    exact ⟨rfl, rfl, hm, hp, hc, hv⟩
  · rw [if_neg (not_or.mpr ⟨hb, hp⟩), Node.tryFinalizeCommit_eq { n with
      proposalBlock := none, proposalParts := some bid.hash, partsComplete := false, step := .commit, commitRound := cr }
      bid hm hne, if_neg nofun]
    exact ⟨rfl, rfl, hm, rfl, rfl, hv⟩

/-- P5: hence the height is committed at once or as soon as the block's parts are delivered, by
    anybody - no timeout and no further vote is needed -/
theorem commit_now_or_when_the_parts_arrive (n : Node.Node) (cr : Int) (bid : VoteSet.BlockID) (own : Bool)
    (hg : Node.Good n) (hcp : Node.Cpl n)
    (hs : ¬ Node.Step.commit ≤ n.step) (hm : Node.maj23 (Node.precommits n cr) = some bid) (hne : bid.hash.isEmpty = false)
    (hv : Node.isValid n bid.hash = true) :
    (Node.enterCommit n n.height cr).height = n.height + 1 ∨
    (Node.addParts (Node.enterCommit n n.height cr) n.height bid.hash own).height = n.height + 1 :=
  by
  rcases two_thirds_precommits_are_never_ignored n cr bid hg hcp hs hm hne hv with ⟨_, h⟩ | ⟨h1, h2, h3, h4, h5, h6⟩
  · exact Or.inl h
  · right
    have := (commit_when_parts_arrive (Node.enterCommit n n.height cr) bid own h2 h3 hne h4 h5 h6).2
    rw [h1] at this
    exact this

/-- P6: the two invariants hold in EVERY state a (repaired) node reaches from its start, whatever
    messages, own-queue entries, timeouts and +2/3 claims it is given, in any order -/
theorem invariants_hold_in_every_reachable_state (height : Int) (vals : ValSet.ValSet) (me : Option Nat) (skip : Bool)
    (ins : List Node.In) :
    Node.Good (ins.foldl Node.stepIn (Node.init Node.repaired height vals me skip)) ∧
    Node.Cpl (ins.foldl Node.stepIn (Node.init Node.repaired height vals me skip)) :=
  ⟨Node.run_good ins _ (Node.init_good height vals me skip), Node.run_cpl ins _ (Node.init_cpl _ height vals me skip)⟩

end AnnVerif.C12
