/-
  C19 — Transaction pool: per-account nonce order, no duplicates, no loss, bounded.

  Model: Model/Pool.lean (tx_pool.go CheckAndAdd / addWaiting / promoteExecutables /
  demoteUnexecutables / Update + updateToState / Reap / Flush, tx_sort.go Add / Forward / ReadyN /
  TryReplace). PROVED for EVERY sequence of submissions (any account, any nonce: gaps, repeats, stale),
  admin requests, commits of ANY transaction ids with ANY resulting account nonces, and flushes:
    Q1  in every reachable state each account's pending and waiting queue is strictly ascending in
        the nonce: the pool never holds — so never offers — two transactions with the same account
        and nonce, and what it offers per account is in nonce order;
    Q2  the pending and the waiting queue never exceed their limits;
    Q3  an exact duplicate, a stale nonce and a nonce that is already pending are refused, and a
        refused submission leaves the pool exactly as it was;
    Q4  after a commit none of the transactions the block contained is queued (hence none is
        offered again), whatever the block did to the nonces — as found an included-but-invalid
        transaction stayed pending (counter-theorem, replayed on the code).
    Q5  in every reachable state what is offered per account is CONSECUTIVE from the account's
        current nonce (Lemmas/PoolConsec.lean: `PCons` through every operation; the commit
        re-establishes it from scratch, whatever the block contained and whatever nonces it left
        behind) — as found `demoteUnexecutables` looked for a gap in front of a pending queue only:
        a block with a later transaction of an account but not the ones before it left a hole, and
        the pool offered nonces 1, 3 (counter-theorem, replayed on the code).
  PARTIAL (decided per run by the engine, not proved): that the lookup cache equals the queues (as
  found it leaked: counter-theorem); that nothing accepted vanishes below capacity.
  NOT covered: the time-based eviction loop, the broadcast queue, the gemmill FIFO mempool
  (gemmill/mempool), concurrent submitters against the commit path (the pool is one mutex).
-/
import AnnVerif.Lemmas.PoolMem
import AnnVerif.Lemmas.PoolConsec
import AnnVerif.Lemmas.Fifo
namespace AnnVerif.C19
open AnnVerif AnnVerif.Pool

inductive Op where
  | submit (t : Tx)
  | admin (id : Nat)
  | commit (included : List Nat) (nonces : List (Nat × Nat))
  | flush

def stepOp (p : Pool) : Op → Pool
  | .submit t => (submit {} p t).1
  | .admin id => (submitAdmin p id).1
  | .commit inc ns => commit {} p inc ns
  | .flush => flush p

def run (p : Pool) (ops : List Op) : Pool := ops.foldl stepOp p

def wellFormedOp : Op → Prop
  | .submit t => t.sender ∈ accounts
  | _ => True

theorem inv_empty (pl wl : Nat) : Inv pl wl { pendingLimit := pl, waitingLimit := wl } :=
  ⟨QInv.empty pl, QInv.empty wl, rfl, rfl⟩

theorem step_inv (pl wl : Nat) (p : Pool) (op : Op) (h : Inv pl wl p) (hw : wellFormedOp op) :
    Inv pl wl (stepOp p op) := by
  cases op with
  | submit t => exact submit_inv {} p t h hw
  | admin id => exact submitAdmin_inv p id h
  | commit inc ns => exact commit_inv {} p inc ns h
  | flush => exact flush_inv p h

theorem reachable_inv (pl wl : Nat) (ops : List Op) (hw : ∀ op ∈ ops, wellFormedOp op) :
    Inv pl wl (run { pendingLimit := pl, waitingLimit := wl } ops) :=
  List.foldlRecOn ops stepOp (inv_empty pl wl) fun p h op hop => step_inv pl wl p op h (hw op hop)

/-- Q1: what is offered for one account is strictly ascending in the nonce -/
theorem offered_nonces_strictly_ascending (pl wl : Nat) (ops : List Op) (hw : ∀ op ∈ ops, wellFormedOp op) (a : Nat) :
    ((run { pendingLimit := pl, waitingLimit := wl } ops).pending a).Pairwise (fun x y => x.nonce < y.nonce) :=
  (reachable_inv pl wl ops hw).pend.sorted a

theorem never_two_for_one_account_and_nonce (pl wl : Nat) (ops : List Op) (hw : ∀ op ∈ ops, wellFormedOp op) (a : Nat) :
    ((run { pendingLimit := pl, waitingLimit := wl } ops).pending a).Pairwise (fun x y => x.nonce ≠ y.nonce) :=
  sorted_distinct _ ((reachable_inv pl wl ops hw).pend.sorted a)

/-- everything queued for an account was sent by that account -/
theorem queued_under_its_sender (pl wl : Nat) (ops : List Op) (hw : ∀ op ∈ ops, wellFormedOp op) (a : Nat) (t : Tx)
    (h : t ∈ (run { pendingLimit := pl, waitingLimit := wl } ops).pending a) : t.sender = a :=
  (reachable_inv pl wl ops hw).pend.owner a t h

/-- Q2: the queues stay within the configured limits -/
theorem stays_within_bounds (pl wl : Nat) (ops : List Op) (hw : ∀ op ∈ ops, wellFormedOp op) :
    mCount (run { pendingLimit := pl, waitingLimit := wl } ops).pending ≤ pl ∧
    mCount (run { pendingLimit := pl, waitingLimit := wl } ops).waiting ≤ wl :=
  ⟨(reachable_inv pl wl ops hw).pend.bound, (reachable_inv pl wl ops hw).wait.bound⟩

/-- Q5: what is offered for one account is consecutive from the account's current nonce -/
theorem reachable_pcons (pl wl : Nat) (ops : List Op) (hw : ∀ op ∈ ops, wellFormedOp op) :
    PCons (run { pendingLimit := pl, waitingLimit := wl } ops) := by
  refine (List.foldlRecOn (motive := fun p => Inv pl wl p ∧ PCons p) ops stepOp ⟨inv_empty pl wl, ⟨fun _ => trivial⟩⟩
    fun p h op hop => ⟨step_inv pl wl p op h.1 (hw op hop), ?_⟩).2
  cases op with
  | submit t => exact submit_pcons {} p t h.2
  | admin id => exact submitAdmin_pcons p id h.2
  | commit inc ns => exact commit_pcons {} rfl p inc ns h.1.pend.supp
  | flush => exact flush_pcons p

theorem offered_nonces_consecutive (pl wl : Nat) (ops : List Op) (hw : ∀ op ∈ ops, wellFormedOp op) (a : Nat) :
    Consec ((run { pendingLimit := pl, waitingLimit := wl } ops).pending a)
      (nonceOf (run { pendingLimit := pl, waitingLimit := wl } ops) a) :=
  (reachable_pcons pl wl ops hw).consec a

/-- `Consec` spelled out: the i-th transaction offered for the account carries nonce + i -/
theorem consec_get : ∀ (q : Queue) (n : Nat), Consec q n → ∀ (i : Nat) (h : i < q.length), (q[i]'h).nonce = n + i := by
  intro q
  induction q with
  | nil => intro n _ i h; simp at h
  | cons t r ih =>
    intro n hc i h
    obtain ⟨h1, h2⟩ := hc
    cases i with
    | zero => simpa using h1
    | succ j =>
      have := ih (n + 1) h2 j (by simpa using h)
      simp only [List.getElem_cons_succ]
      omega

/-- Q3: refused submissions, and they leave the pool as it was -/
theorem exact_duplicate_refused (cfg : Cfg) (p : Pool) (t : Tx) (h : t.id ∈ p.all) :
    submit cfg p t = (p, .exist) := by
  rw [submit, if_pos (List.contains_iff_mem.mpr h)]

theorem stale_nonce_refused (cfg : Cfg) (p : Pool) (t : Tx) (h1 : t.id ∉ p.all) (h2 : t.nonce < nonceOf p t.sender) :
    submit cfg p t = (p, .stale) := by
  rw [submit, if_neg (mt List.contains_iff_mem.mp h1), if_pos h2]

theorem pending_nonce_refused (p : Pool) (t : Tx) (h1 : t.id ∉ p.all) (h2 : ¬ t.nonce < nonceOf p t.sender)
    (h3 : qHas (p.pending t.sender) t.nonce = true) : submit {} p t = (p, .nonceTaken) := by
  rw [submit, if_neg (mt List.contains_iff_mem.mp h1), if_neg h2, if_pos ⟨rfl, h3⟩]

/-- Q4: a transaction a committed block contained is not offered again -/
theorem committed_never_offered_again (p : Pool) (included : List Nat) (nonces : List (Nat × Nat)) (t : Tx)
    (h : t ∈ (reapAll (commit {} p included nonces)).2) : t.id ∉ included := by
  unfold reapAll at h
  simp only [List.mem_flatten, List.mem_map] at h
  obtain ⟨q, ⟨a, _, rfl⟩, ht⟩ := h
  exact (commit_removes {} rfl p included nonces).pending a t ht

/-- account 0 submits a transaction with its current nonce; a block includes it and judges it
    invalid (the application nonce stays 0): as found it is offered again, block after block -/
def wOps (cfg : Cfg) : Pool :=
  let p := (submit cfg {} ⟨1, 0, 0⟩).1
  let p := commit cfg p [1] [(0, 0)]
  commit cfg p [1] [(0, 0)]

theorem asFound_included_but_invalid_offered_again :
    ((reapAll (wOps ⟨true, true, false, true, true⟩)).2.map (·.id)) = [1] ∧
    ((reapAll (wOps {})).2.map (·.id)) = [] := by decide

/-- account 0 has nonces 0..3 pending (1, 2, 3 waited for 0); a block contains the transactions with nonce 0 and 2 only
    (the second one is invalid in it: the application nonce goes to 1). As found the pool then offers
    nonces 1 and 3; repaired it offers 1 and keeps 3 waiting -/
def gOps (cfg : Cfg) : Pool :=
  let p := (submit cfg {} ⟨2, 0, 1⟩).1
  let p := (submit cfg p ⟨3, 0, 2⟩).1
  let p := (submit cfg p ⟨4, 0, 3⟩).1
  let p := (submit cfg p ⟨1, 0, 0⟩).1
  commit cfg p [1, 3] [(0, 1)]

theorem asFound_offers_across_a_gap :
    ((reapAll (gOps { demotesGaps := false })).2.map (·.nonce)) = [1, 3] ∧
    ((reapAll (gOps {})).2.map (·.nonce)) = [1] ∧ ((gOps {}).waiting 0).map (·.nonce) = [3] := by decide

/-- as found a second transaction for a pending nonce is accepted, dropped at once, and its hash
    stays in the lookup cache -/
theorem asFound_same_nonce_accepted_and_leaked :
    let p := (submit ⟨true, false, true, false, true⟩ {} ⟨1, 0, 0⟩).1
    let r := submit ⟨true, false, true, false, true⟩ p ⟨2, 0, 0⟩
    r.2 = .ok ∧ r.1.all = [1, 2] ∧ (r.1.pending 0).map (·.id) = [1] ∧ (r.1.waiting 0).map (·.id) = [] := by decide

/-- non-vacuity: gapped submissions wait, the gap closes, everything is promoted in order -/
example : ((reapAll (run { pendingLimit := 10, waitingLimit := 10 }
    [.submit ⟨1, 0, 2⟩, .submit ⟨2, 0, 1⟩, .submit ⟨3, 0, 0⟩, .commit [] [(0, 0)]])).2.map (·.nonce)) = [0, 1, 2] := by decide

/-! ### the FIFO mempool (gemmill/mempool) -/

/-- Q5: along ANY sequence of receptions and commits (no flush), the mempool never holds a
    transaction twice, and never holds — so never offers — a transaction that a committed block
    contained, whether the node had seen it before or not, however often it is received again -/
theorem fifo_never_offers_committed_or_duplicate (ops : List FOp) :
    (ops.foldl fstep {}).txs.Nodup ∧ ∀ t ∈ committedIn ops, t ∉ (ops.foldl fstep {}).txs :=
  ⟨(List.foldlRecOn ops fstep ⟨List.nodup_nil, nofun⟩ fun m h op _ => fstep_inv m op h).nodup,
   fun t ht => (gone_run t ops {} (Or.inr ht)).2⟩

/-- as found a committed transaction that is received again is back in the mempool -/
theorem asFound_committed_accepted_again :
    ((Fifo.receive (Fifo.update ⟨false⟩ (Fifo.receive {} 7).1 [7]) 7).1.txs) = [7] ∧
    ((Fifo.receive (Fifo.update {} (Fifo.receive {} 7).1 [7]) 7).1.txs) = [] := by decide

/-- Q1: `addWaiting` answers "queue is full" only when the waiting queues - counted over EVERY
    account, as the pool's size is defined - hold at least `waitingLimit` transactions -/
theorem full_only_at_the_limit (cfg : Pool.Cfg) (p : Pool.Pool) (t : Pool.Tx)
    (h : (Pool.addWaiting cfg p t).2 = .full) : p.waitingLimit ≤ Pool.mCount p.waiting := by
  unfold Pool.addWaiting at h
  by_cases hc : Pool.mCount p.waiting ≥ p.waitingLimit
  · exact hc
  · -- below the limit the answers are `nonceTaken` and `ok`
    rw [if_neg hc] at h
    split at h <;> cases h

/-- Q2: hence a submission is refused as full only by a pool at its limit ("never drops an
    executable transaction while below its capacity", the refusal side) -/
theorem submit_refuses_as_full_only_at_the_limit (cfg : Pool.Cfg) (p : Pool.Pool) (t : Pool.Tx)
    (h : (Pool.submit cfg p t).2 = .full) : p.waitingLimit ≤ Pool.mCount p.waiting :=
  full_only_at_the_limit cfg p t (submit_full cfg p t h)

example : (Pool.addWaiting {} { waitingLimit := 1, waiting := fun a => if a = 0 then [⟨1, 0, 5⟩] else [] } ⟨2, 1, 7⟩).2 = .full := by
  decide

end AnnVerif.C19
