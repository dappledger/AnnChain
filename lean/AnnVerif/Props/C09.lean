/-
  C09 — Transaction execution is total, atomic and replay-protected (the application wrapper).

  Model: Model/App.lean `applyTx` / `execTxs` (validity as decided by tryValidate, preCheck, buyGas,
  intrinsic gas, CanTransfer, executeKVTx). The EVM itself is opaque: a transaction that passes the
  checks is "applied" and its receipt is an oracle input; what the EVM does to contract storage is
  covered by C10/C11, that an invalid transaction leaves no trace in the REAL state is decided per
  run by replica D of the evmapp engine (the block without the invalid transactions gives the same
  application hash).
  PROVED (repaired code), for every account state and every transaction:
    A1  total: no transaction makes the executor panic (as found: empty bytes and malformed input
        to the governance precompile do — counter-theorems with code witnesses);
    A2  atomic: a transaction reported invalid leaves the accounts exactly as they were;
    A3  a signed transaction is applied only when its nonce equals its sender's current nonce, and
        applying it raises that nonce by exactly one and no other account's nonce;
    A4  replay protection: nonces never decrease, so in ANY sequence of transactions (over any
        number of blocks) a signed transaction (sender, nonce) takes effect at most once
        (as found: a key-value transaction is applied again — counter-theorem).
-/
import AnnVerif.Lemmas.App
namespace AnnVerif.C09
open AnnVerif AnnVerif.App

/-- A1 -/
theorem no_panic (as : Accounts) (t : Tx) : (applyTx repaired as t).2 ≠ .panic := by
  refine applyTx_cases (fun r => r.2 ≠ .panic) repaired as t (fun h => nomatch h) (fun h _ => ?_) ?_
  · rcases h with h | h <;> cases h
  · intro s n k v g p z nz as' o _ ho _ _ hp
    rcases ho with rfl | ⟨r, rfl⟩ <;> cases hp

theorem asFound_empty_bytes_panic (as : Accounts) : (applyTx asFound as .empty).2 = .panic := by
  simp [applyTx, asFound]

theorem asFound_admin_input_panics :
    (applyTx asFound [] (.signed 0 0 (.call 1000 true) 0 300000 0 0 2)).2 = .panic := by decide

/-- A2 -/
theorem invalid_leaves_no_trace (cfg : Cfg) (as : Accounts) (t : Tx)
    (h : (applyTx cfg as t).2 = .invalid) : (applyTx cfg as t).1 = as := by
  refine applyTx_cases (fun r => r.2 = .invalid → r.1 = as) cfg as t (fun _ => rfl) (fun _ _ => rfl) ?_ h
  intro s n k v g p z nz as' o _ ho _ _ hi
  rcases ho with rfl | ⟨r, rfl⟩ <;> cases hi

def Applied : Outcome → Prop
  | .applied => True
  | .kvApplied _ => True
  | _ => False

/-- A3 -/
theorem applied_at_current_nonce_plus_one (as : Accounts) (s n : Nat) (k : Kind) (v g p z nz : Nat)
    (h : Applied (applyTx repaired as (.signed s n k v g p z nz)).2) :
    n = nonceOf as s ∧
    nonceOf (applyTx repaired as (.signed s n k v g p z nz)).1 s = n + 1 ∧
    ∀ i, i ≠ s → nonceOf (applyTx repaired as (.signed s n k v g p z nz)).1 i = nonceOf as i := by
  refine applyTx_cases (fun r => Applied r.2 → n = nonceOf as s ∧ nonceOf r.1 s = n + 1 ∧
    ∀ i, i ≠ s → nonceOf r.1 i = nonceOf as i) repaired as _ False.elim (fun _ => False.elim) ?_ h
  intro s' n' k' v' g' p' z' nz' as' o ht _ hn hi _
  cases ht
  have hn : n = nonceOf as s := hn.resolve_right (fun e => nomatch e)
  refine ⟨hn, ?_, fun i hi' => ?_⟩
  · rw [hi, if_pos rfl, hn]
  · rw [hi, if_neg hi']

/-- the transactions of any number of consecutive blocks, one after the other -/
def runTxs (cfg : Cfg) : Accounts → List Tx → Accounts
  | as, [] => as
  | as, t :: ts => runTxs cfg (applyTx cfg as t).1 ts

/-- A4: in any sequence of transactions, over any number of blocks and from any state, a signed
    transaction (sender, nonce) takes effect at most once -/
theorem applied_at_most_once (s n : Nat) : ∀ (ts : List Tx) (as : Accounts),
    timesApplied repaired s n as ts ≤ 1 :=
  fun ts as => (timesApplied_le repaired rfl s n ts as).1

/-- as found: the same key-value transaction, included twice, takes effect twice -/
theorem asFound_kv_replayed :
    timesApplied asFound 0 0 [] [.signed 0 0 (.kv [1] [2] true) 0 0 0 0 0, .signed 0 0 (.kv [1] [2] true) 0 0 0 0 0] = 2 := by
  decide

/-- non-vacuity: a block in which a call, a key-value transaction and a creation are applied and a
    replayed one is rejected -/
example : (execTxs repaired [] [.signed 0 0 (.call 1) 0 21000 0 0 0, .signed 0 1 (.kv [1] [2] true) 0 0 0 0 0,
      .signed 0 1 (.kv [1] [2] true) 0 0 0 0 0, .signed 1 0 .create 0 30000 0 0 0] [[7], [8]] [] [] []).2.2.2.map isApplied
    = [true, true, false, true] := by decide

end AnnVerif.C09
