/-
  C18 — Codecs: round-trip, bounded robust decoding, injective sign-bytes.

  PROVED here (models: Model/WirePrim.lean, Model/Rlp.lean, Model/Basic.lean):
    * go-wire primitives every consensus value is built from: varint round trip, totality of the
      decoders (value or error, never a panic), bounded allocation of ReadByteSlice under a limit,
      the length prefix is a prefix code (injectivity), time round trip and (repaired) totality;
    * RLP: decode ∘ encode = id for every item tree (any depth, payloads < 2^64);
    * the canonical sign-bytes of a VOTE (Model/SignBytes.lean: go-wire's JSON of
      CanonicalJSONOnceVote with `omitempty` on the block id's hash and parts, hex byte strings,
      decimal integers - compared character for character with types.SignBytes on every run) are
      INJECTIVE for one chain id: equal text implies equal height, round, type and block id.
  NOT proved (stated so in MANIFEST/evidence; covered by the differential oracle of the c18 engine
  on the real reflect-based codec): struct-level binary/JSON round trips of the registered
  consensus types, sign-bytes of proposals and across chain ids (checked pairwise on single-field
  differences).
-/
import AnnVerif.Lemmas.WirePrim
import AnnVerif.Lemmas.Rlp
import AnnVerif.Lemmas.SignBytes
namespace AnnVerif.C18
open AnnVerif AnnVerif.WirePrim

/-- C18.1 varint round trip with arbitrary trailing bytes -/
theorem varint_roundtrip (i : Int) (h0 : 0 ≤ i) (h1 : i < 2 ^ 63) (rest : Bytes) :
    readVarint (writeVarint i ++ rest) = .ok i rest :=
  readVarint_writeVarint i (by omega) h1 rest

/-- C18.2 decoding ARBITRARY bytes returns a value or an error, never a panic -/
theorem varint_decode_total (inp : Bytes) : readVarint inp ≠ .panic := readVarint_total inp

theorem byteslice_decode_total (lmt n0 : Nat) (inp : Bytes) : (readByteSlice lmt n0 inp).1 ≠ .panic :=
  readByteSlice_cases (motive := fun x => x.1 ≠ R.panic) lmt n0 inp (fun _ => nofun) (fun _ _ _ hr => hr)

/-- C18.3 … and never allocates beyond the caller's limit, whatever length the input claims -/
theorem byteslice_alloc_bounded (lmt n0 : Nat) (hl : lmt ≠ 0) (inp : Bytes) :
    (readByteSlice lmt n0 inp).2 ≤ lmt :=
  readByteSlice_cases (motive := fun x => x.2 ≤ lmt) lmt n0 inp (fun _ => Nat.zero_le _) (fun _ _ hle _ => hle hl)

/-- C18.4 the byte-slice encoding is a prefix code: two encoded slices followed by anything are
    equal only if the slices are equal (this is what makes concatenated fields unambiguous) -/
theorem byteslice_prefix_code (a c X Y : Bytes) (ha : a.length < 2 ^ 64) (hc : c.length < 2 ^ 64)
    (h : wireByteSlice a ++ X = wireByteSlice c ++ Y) : a = c ∧ X = Y :=
  wireByteSlice_append_inj a c X Y ha hc h

/-- C18.5 time: what WriteTime writes ReadTime accepts; (repaired) ReadTime never panics -/
theorem time_roundtrip (cfg : Cfg) (ms : Int) (h0 : 0 ≤ ms) (h1 : ms * 1000000 < 2 ^ 63) (rest : Bytes) :
    readTime cfg (writeTime (ms * 1000000) ++ rest) = .ok (ms * 1000000) rest :=
  readTime_writeTime cfg ms (by omega) h1 rest

theorem time_decode_total_repaired (inp : Bytes) : readTime repaired inp ≠ .panic := by
  unfold readTime
  rw [show repaired.timeErr = true from rfl, if_pos rfl]
  repeat' refine iteInduction (motive := (· ≠ R.panic)) (fun _ => ?_) (fun _ => ?_)
  all_goals nofun

/-- AS FOUND: a value that is not a whole number of milliseconds panics the decoder -/
theorem time_decode_panics_asFound : readTime asFound [0, 0, 0, 0, 0, 0, 0, 1] = .panic := by
  decide

/-- C18.6 RLP: decode (encode x) = x for every item tree -/
theorem rlp_roundtrip (x : Rlp.Item) (hs : Rlp.smallOne x) : Rlp.decode (Rlp.encode x) = .ok x :=
  Rlp.decode_encode x hs

/-! ### non-vacuity -/
example : readVarint (writeVarint 300 ++ [9]) = .ok 300 [9] := by decide
example : (readByteSlice 4 0 [1, 200, 1, 2]).1 = .err .readOverflow := by decide
example : Rlp.smallOne (.list [.str [1], .list [.str [], .str [0x80, 1]]]) := by
  simp [Rlp.smallOne, Rlp.smallItems, Rlp.encodeList, Rlp.encode, Rlp.encodeStr, Rlp.header]
example : Rlp.encode (.list [.str [1], .list [.str [], .str [0x80, 1]]]) =
    [0xc6, 0x01, 0xc4, 0x80, 0x82, 0x80, 0x01] := by decide

/-- C18.9 sign-bytes of votes are injective: two votes of one chain with the same sign-bytes agree in
    height, round, type and block id (hash, parts total, parts hash) - so a signature over the
    sign-bytes commits to all of them, whatever their values -/
theorem vote_sign_bytes_injective (chain : List Char) (h h' r r' : Int) (t t' : Nat) (b b' : VoteSet.BlockID)
    (e : SignBytes.voteJson chain h r t b = SignBytes.voteJson chain h' r' t' b') :
    h = h' ∧ r = r' ∧ t = t' ∧ b = b' :=
  SignBytes.voteJson_injective chain h h' r r' t t' b b' e

/-- the two kinds of field in the sign-bytes -/
theorem hex_text_injective (a b : Bytes) (e : SignBytes.hexOf a = SignBytes.hexOf b) : a = b := by
  rw [← SignBytes.unhex_hexOf a, e, SignBytes.unhex_hexOf]
theorem decimal_text_injective (i j : Int) (e : SignBytes.decOf i = SignBytes.decOf j) : i = j := by
  rw [← SignBytes.decVal_decOf i, e, SignBytes.decVal_decOf]

/-- the nil block id and the three other shapes `omitempty` produces are told apart -/
example : SignBytes.bidJson ⟨[], 0, []⟩ = ['{', '}'] ∧
    SignBytes.bidJson ⟨[], 0, [9]⟩ ≠ SignBytes.bidJson ⟨[9], 0, []⟩ := by decide

end AnnVerif.C18
