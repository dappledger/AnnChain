/-
  C15 — Vote accounting: a 2/3 majority is reported exactly when it exists.

  Property theorems only. The model is Model/VoteSet.lean (VoteSet.addVote / SetPeerMaj23 /
  MakeCommit, ValidatorSet.VerifyCommit, BlockID.Key); the invariant and its preservation are in
  Lemmas/VoteSetInv.lean, commit verification in Lemmas/VoteCommit.lean, injectivity of the key
  in Lemmas/VoteKey.lean.  Signatures are an oracle bit carried by each offered vote; every
  theorem holds for every assignment of that bit.

  Arithmetic is over unbounded `Int`: the Go code computes in int64, so the theorems describe the
  code for validator sets with 3·total < 2^63 (the code's own documented assumption; the
  correspondence harness goes up to total ≈ 2^61).
-/
import AnnVerif.Lemmas.VoteCommit
namespace AnnVerif.C15
open AnnVerif AnnVerif.VoteSet

/-- what can be offered to a vote set -/
inductive Op where
  | vote (v : Vote) (sigok : Bool)
  | peer (p : String) (b : BlockID)

def stepOp (cfg : Cfg) (vs : VoteSet) : Op → VoteSet
  | .vote v ok => (addVote cfg vs v ok).1
  | .peer p b => setPeerMaj23 cfg vs p b

def run (cfg : Cfg) (vs : VoteSet) (ops : List Op) : VoteSet := ops.foldl (stepOp cfg) vs

def histOf : List Op → Hist
  | [] => []
  | .vote v ok :: t => (v, ok) :: histOf t
  | .peer _ _ :: t => histOf t

theorem histOf_append (a b : List Op) : histOf (a ++ b) = histOf a ++ histOf b := by
  induction a with
  | nil => rfl
  | cons x t ih => cases x <;> simp [histOf, ih]

theorem run_induction (cfg : Cfg) {P : Hist → VoteSet → Prop}
    (vote : ∀ hist vs v ok, P hist vs → P (hist ++ [(v, ok)]) (addVote cfg vs v ok).1)
    (peer : ∀ hist vs p b, P hist vs → P hist (setPeerMaj23 cfg vs p b)) (ops : List Op) :
    ∀ hist vs, P hist vs → P (hist ++ histOf ops) (run cfg vs ops) := by
  induction ops with
  | nil => intro hist vs h; exact (List.append_nil hist).symm ▸ h
  | cons x t ih =>
    intro hist vs h
    cases x with
    | vote v ok =>
      have := ih _ _ (vote hist vs v ok h)
      rwa [List.append_assoc] at this
    | peer p b => exact ih _ _ (peer hist vs p b h)

/-- every vote set reachable by ANY stream of votes and peer claims satisfies the invariant -/
theorem reachable_inv (cfg : Cfg) (height round : Int) (type : Nat) (vals : List Validator)
    (hpos : ∀ val ∈ vals, 0 ≤ val.power) (ops : List Op) :
    Inv cfg (histOf ops) (run cfg (new height round type vals) ops) ∧
    SameParams (new height round type vals) (run cfg (new height round type vals) ops) :=
  run_induction cfg (P := fun hist vs => Inv cfg hist vs ∧ SameParams (new height round type vals) vs)
    (fun _ _ v ok h =>
      have a := addVote_inv v ok (h.2.vals ▸ hpos) h.1
      ⟨a.1, h.2.trans a.2⟩)
    (fun _ _ p b h =>
      have a := setPeerMaj23_inv p b (h.2.vals ▸ hpos) h.1
      ⟨a.1, h.2.trans a.2⟩)
    ops [] _ ⟨inv_new cfg height round type vals, SameParams.refl _⟩

/-- an offered vote that is valid for position `i` of this vote set and is for block `b` -/
def ValidFor (hist : Hist) (vs : VoteSet) (b : BlockID) (i : Nat) (v : Vote) : Prop :=
  (v, true) ∈ hist ∧ v.idx = (i : Int) ∧ v.bid = b ∧ v.height = vs.height ∧ v.round = vs.round ∧
  v.type = vs.type ∧ ∃ val, vs.vals[i]? = some val ∧ val.addr = v.addr

/-- C15.1 each validator's power counts at most once: the running sum is the power of the
    occupied POSITIONS (one slot per validator), and never exceeds the total. -/
theorem counted_once (cfg : Cfg) (height round : Int) (type : Nat) (vals : List Validator)
    (hpos : ∀ val ∈ vals, 0 ≤ val.power) (ops : List Op) :
    let vs := run cfg (new height round type vals) ops
    vs.sum = tally (powers vals) vs.votes ∧ vs.sum ≤ total vals ∧
    ∀ k bv, lookup vs.byBlock k = some bv → bv.sum = tally (powers vals) bv.votes ∧ bv.sum ≤ total vals := by
  intro vs
  obtain ⟨hinv, hsp⟩ := reachable_inv cfg height round type vals hpos ops
  have hv : vals = vs.vals := hsp.vals
  have hpp := powers_nonneg vs.vals (hv ▸ hpos)
  rw [hv, total_eq]
  exact ⟨hinv.sum, hinv.sum ▸ tally_le_sum _ _ hpp, fun k bv hk =>
    ⟨hinv.entrySum k bv hk, hinv.entrySum k bv hk ▸ tally_le_sum _ _ hpp⟩⟩

/-- C15.2 SOUNDNESS (repaired key): if a two-thirds majority is reported for block `b`, then there
    is a set of DISTINCT validator positions (one slot each), every one of which offered a validly
    signed vote for exactly `b` in this height/round/type with matching index and address, whose
    voting power is strictly more than two thirds of the total. -/
theorem majority_sound (height round : Int) (type : Nat) (vals : List Validator)
    (hpos : ∀ val ∈ vals, 0 ≤ val.power) (ops : List Op)
    (hsmall : ∀ x ∈ histOf ops, x.1.bid.Small) (b : BlockID)
    (hmaj : (run repaired (new height round type vals) ops).maj23 = some b) (hb : b.Small) :
    ∃ slots : List (Option Vote), slots.length = vals.length ∧
      (∀ (i : Nat) (v : Vote), slots[i]? = some (some v) →
        ValidFor (histOf ops) (run repaired (new height round type vals) ops) b i v) ∧
      3 * tally (powers vals) slots > 2 * total vals := by
  obtain ⟨hinv, hsp⟩ := reachable_inv repaired height round type vals hpos ops
  have hv : vals = (run repaired (new height round type vals) ops).vals := hsp.vals
  obtain ⟨slots, hlen, hq, hall⟩ := hinv.maj_entry hsmall hb hmaj
  refine ⟨slots, hv ▸ hlen, fun i v hiv => ?_, ?_⟩
  · obtain ⟨g, hvb, _⟩ := hall i v hiv
    exact ⟨g.offered, g.idx, hvb, g.h, g.r, g.t, g.addr⟩
  · rw [← hv] at hq
    have hg := quorum_gt (total vals)
    omega

/-- C15.2' AS FOUND soundness is FALSE: `Key()` merges the tallies of two different blocks, so a
    majority is reported for a block that only 1 of 3 validators voted for
    (witness: 3 equal validators; votes for {nil,1,[00]}, {[01 01],1,nil}, {[01 01],1,nil}). -/
def wVals : List Validator := [⟨[1], 1⟩, ⟨[2], 1⟩, ⟨[3], 1⟩]
def wB1 : BlockID := ⟨[], 1, [0]⟩
def wB2 : BlockID := ⟨[1, 1], 1, []⟩
def wOps : List Op :=
  [.vote ⟨0, [1], 1, 0, 1, wB1, 1⟩ true, .vote ⟨1, [2], 1, 0, 1, wB2, 2⟩ true,
   .vote ⟨2, [3], 1, 0, 1, wB1, 3⟩ true]

theorem asFound_majority_without_two_thirds :
    (run asFound (new 1 0 1 wVals) wOps).maj23 = some wB1 ∧
    (run repaired (new 1 0 1 wVals) wOps).maj23 = none := by
  refine ⟨by decide, by decide⟩

/-- C15.3 STABILITY: a reported majority never changes or disappears, whatever is offered next. -/
theorem majority_stable (cfg : Cfg) (vs : VoteSet) (b : BlockID) (h : vs.maj23 = some b) (op : Op) :
    (stepOp cfg vs op).maj23 = some b := by
  cases op with
  | vote v ok =>
    rcases addVote_maj23 cfg vs v ok with h' | ⟨h', _⟩
    · exact h'.trans h
    · cases h.symm.trans h'
  | peer p b' => exact (setPeerMaj23_maj23 cfg vs p b').trans h

theorem majority_stable_run (cfg : Cfg) (vs : VoteSet) (b : BlockID) (h : vs.maj23 = some b)
    (ops : List Op) : (run cfg vs ops).maj23 = some b :=
  List.foldlRecOn (motive := fun vs => vs.maj23 = some b) ops _ h fun vs h op _ => majority_stable cfg vs b h op

/-- C15.4 EXACTNESS at the level of the accepted tallies: a majority is reported if and only if
    some block's accepted tally has reached the quorum `total*2/3 + 1`. -/
theorem majority_iff_tally (cfg : Cfg) (height round : Int) (type : Nat) (vals : List Validator)
    (hpos : ∀ val ∈ vals, 0 ≤ val.power) (ops : List Op) :
    let vs := run cfg (new height round type vals) ops
    vs.maj23.isSome ↔ ∃ k bv, lookup vs.byBlock k = some bv ∧ quorum (total vals) ≤ bv.sum := by
  intro vs
  obtain ⟨hinv, hsp⟩ := reachable_inv cfg height round type vals hpos ops
  have hv : vals = vs.vals := hsp.vals
  rw [hv]
  exact hinv.maj_iff

/-- C15.4b a validator's FIRST validly signed vote is always accepted and counted (so for streams
    in which nobody equivocates the accepted tallies are exactly the offered valid votes). -/
theorem first_valid_vote_added (cfg : Cfg) (hist : Hist) (vs : VoteSet) (hinv : Inv cfg hist vs)
    (v : Vote) (i : Nat) (val : Validator)
    (hidx : v.idx = (i : Int)) (hval : vs.vals[i]? = some val) (haddr : val.addr = v.addr)
    (hne : v.addr ≠ []) (hh : v.height = vs.height) (hr : v.round = vs.round) (ht : v.type = vs.type)
    (hfirst : vs.votes[i]? = some none) :
    (addVote cfg vs v true).2 = .added := by
  rw [(hinv.addVote_first hidx hval haddr hne hh hr ht hfirst).2]

/-- C15.5 conflicting votes are reported as such: a validly signed vote for a block different
    from the one the validator's primary vote is for (and not already recorded) yields
    `ErrVoteConflictingVotes`. -/
theorem conflict_reported (cfg : Cfg) (vs : VoteSet) (v e : Vote) (i : Nat) (val : Validator)
    (hidx : v.idx = (i : Int)) (hval : vs.vals[i]? = some val) (haddr : val.addr = v.addr)
    (hne : v.addr ≠ []) (hh : v.height = vs.height) (hr : v.round = vs.round) (ht : v.type = vs.type)
    (hprev : vs.votes[i]? = some (some e)) (hdiff : e.bid ≠ v.bid)
    (hnew : getVote cfg vs i (v.bid.key cfg) = none) :
    ∃ added, (addVote cfg vs v true).2 = .conflict added := by
  rw [addVote_eq_addVerified cfg vs v i val hidx hval haddr hne hh hr ht hnew]
  exact addVerified_conflict cfg vs v e i _ _ hprev hdiff

/-- a reported majority is always the block of a vote that was offered with a verifying signature -/
theorem majority_offered (cfg : Cfg) (height round : Int) (type : Nat) (vals : List Validator)
    (ops : List Op) (b : BlockID)
    (hmaj : (run cfg (new height round type vals) ops).maj23 = some b) :
    ∃ v, (v, true) ∈ histOf ops ∧ v.bid = b :=
  run_induction cfg (P := MajOffered) (fun _ _ v ok h => addVote_majOffered cfg v ok h)
    (fun _ _ p b h => setPeerMaj23_majOffered cfg p b h) ops [] (new height round type vals) (fun _ h => nomatch (h : none = some _)) b hmaj

/-- C15.6 the commit assembled from a reported majority passes commit verification for the same
    validator set (repaired key; `sigokPos i v` = the signature of `v` verifies under the key at
    position `i`, assumed consistent with the oracle bit the votes were offered with). -/
theorem commit_verifies (height round : Int) (vals : List Validator)
    (hpos : ∀ val ∈ vals, 0 ≤ val.power) (ops : List Op)
    (hsmall : ∀ x ∈ histOf ops, x.1.bid.Small)
    (sigokPos : Nat → Vote → Bool)
    (hsig : ∀ x ∈ histOf ops, x.2 = true → sigokPos x.1.idx.toNat x.1 = true)
    (b : BlockID) (hmaj : (run repaired (new height round 2 vals) ops).maj23 = some b) :
    ∃ c, makeCommit (run repaired (new height round 2 vals) ops) = some c ∧
      verifyCommit repaired sigokPos vals b height c = .ok := by
  obtain ⟨hinv, hsp⟩ := reachable_inv repaired height round 2 vals hpos ops
  obtain ⟨vb, hvb, rfl⟩ := majority_offered repaired height round 2 vals ops _ hmaj
  generalize run repaired (new height round 2 vals) ops = vs at *
  obtain ⟨hh, hr, ht, hv⟩ : height = vs.height ∧ round = vs.round ∧ 2 = vs.type ∧ vals = vs.vals := hsp
  subst hh hv
  exact ⟨⟨_, vs.votes⟩, by rw [makeCommit, hmaj]; rfl,
    hinv.commit_verifies hpos hsmall ht.symm sigokPos hsig (hsmall _ hvb) hmaj⟩

/-! ### non-vacuity -/

/-- four equal validators, three valid precommits for one block: a majority is reported, the
    invariant's hypotheses are inhabited by a non-trivial state, and the commit verifies. -/
def exVals : List Validator := [⟨[1], 1⟩, ⟨[2], 1⟩, ⟨[3], 1⟩, ⟨[4], 1⟩]
def exB : BlockID := ⟨[0xaa], 1, [0xbb]⟩
def exOps : List Op :=
  [.vote ⟨0, [1], 5, 0, 2, exB, 1⟩ true, .vote ⟨1, [2], 5, 0, 2, exB, 2⟩ true,
   .vote ⟨1, [2], 5, 0, 2, ⟨[0xcc], 1, []⟩, 9⟩ true,   -- an equivocation: reported, not counted
   .vote ⟨3, [4], 5, 0, 2, exB, 3⟩ false,                -- a bad signature: rejected
   .vote ⟨2, [3], 5, 0, 2, exB, 4⟩ true]

example : (run repaired (new 5 0 2 exVals) exOps).maj23 = some exB := by decide
example : (run repaired (new 5 0 2 exVals) (exOps.take 4)).maj23 = none := by decide
example : (addVote repaired (run repaired (new 5 0 2 exVals) (exOps.take 2))
    ⟨1, [2], 5, 0, 2, ⟨[0xcc], 1, []⟩, 9⟩ true).2 = .conflict false := by decide
example : (makeCommit (run repaired (new 5 0 2 exVals) exOps)).map
    (verifyCommit repaired (fun _ v => v.sig != 3) exVals exB 5) = some .ok := by decide

end AnnVerif.C15
