/-
  C17 — Block parts and Merkle proofs: only genuine parts accepted, exact reassembly.

  The lemmas about the tree and the part-set invariant live in Lemmas/Merkle.lean, Lemmas/PartSet.lean.
  Everything is for an ARBITRARY leaf hash `H` (hash.DoHash) and two-hash combiner `N`
  (SimpleHashFromTwoHashes); "soundness" concludes with an explicit collision instead of assuming
  there is none.  `cfg` is the variant: `repaired` = range guards reject negative indices,
  `asFound` = the tree before the `fix:` commit.
-/
import AnnVerif.Lemmas.PartSet
namespace AnnVerif.C17
open AnnVerif AnnVerif.Merkle

variable (H : Bytes → Bytes) (N : Bytes → Bytes → Bytes)

/-- C17.1 every generated inclusion proof verifies — any item count ≥ 1, any index. -/
theorem generated_proof_verifies (cfg : Cfg) (hs : List Bytes) (i : Nat) (hi : i < hs.length) :
    ∃ r, root N hs = some r ∧
      verify N cfg (i : Int) (hs.length : Int) hs[i] (aunts N hs i) r = .ok true := by
  obtain ⟨r, hr⟩ := root_isSome N hs (Nat.zero_lt_of_lt hi)
  exact ⟨r, hr, (verify_ok_true_iff N).2 (hr ▸ computeRev_complete N cfg hs i hi)⟩

/-- C17.2 soundness with extraction: whatever leaf and aunts are offered, if they verify against
    the genuine root at the genuine total and an in-range index, the leaf is the genuine one — or
    the inputs exhibit a collision of the combiner. -/
theorem verify_sound (cfg : Cfg) (hs : List Bytes) (r : Bytes) (hr : root N hs = some r)
    (i : Nat) (hi : i < hs.length) (leaf : Bytes) (as : List Bytes)
    (hv : verify N cfg (i : Int) (hs.length : Int) leaf as r = .ok true) :
    leaf = hs[i] ∨ CollisionN N :=
  computeRev_sound N cfg hs i hi leaf _ r hr ((verify_ok_true_iff N).1 hv)

/-- C17.2b (repaired) no proof verifies for a negative index or an index ≥ total; verification
    is total (no panic) for every integer index and total. -/
theorem verify_out_of_range_repaired (idx total : Int) (leaf : Bytes) (as : List Bytes) (r : Bytes)
    (h : idx < 0 ∨ idx ≥ total) : verify N repaired idx total leaf as r = .ok false := by
  rw [verify, compute, computeRev_out_of_range N idx total leaf _ h]

theorem verify_total_repaired (idx total : Int) (leaf : Bytes) (as : List Bytes) (r : Bytes) :
    ∃ b, verify N repaired idx total leaf as r = .ok b := by
  unfold verify compute
  obtain ⟨o, ho⟩ := computeRev_repaired_total N leaf as.reverse idx total
  rw [ho]
  cases o with
  | none => exact ⟨false, rfl⟩
  | some h => exact ⟨h == r, rfl⟩

/-- C17.2c AS FOUND the statement "no proof verifies for a different index" is FALSE: index −1 is
    accepted with the proof of index 0 (witness: any two leaves). -/
theorem asFound_negative_index_verifies (h0 h1 : Bytes) :
    root N [h0, h1] = some (N h0 h1) ∧
    verify N asFound (-1) 2 h0 (aunts N [h0, h1] 0) (N h0 h1) = .ok true := by
  have hr : root N [h0, h1] = some (N h0 h1) := by simp [root, combine]
  have ha : aunts N [h0, h1] 0 = [h1] := by simp [aunts, root]
  exact ⟨hr, (verify_ok_true_iff N).2 (by rw [ha]; exact computeRev_neg_asFound N h0 h1)⟩

/-- C17.2d KNOWN FINDING, inherent to the tree format (both variants): "no proof verifies for a
    different total" is FALSE — the proof of leaf 0 of three leaves verifies for total 4. -/
theorem other_total_verifies (cfg : Cfg) (h0 h1 h2 : Bytes) :
    ∃ r, root N [h0, h1, h2] = some r ∧
      verify N cfg 0 4 h0 (aunts N [h0, h1, h2] 0) r = .ok true := by
  have ha : aunts N [h0, h1, h2] 0 = [h1, h2] := by simp [aunts, root]
  obtain ⟨hr, hc⟩ := computeRev_other_total N cfg h0 h1 h2
  exact ⟨_, hr, (verify_ok_true_iff N).2 (by rw [ha]; exact hc)⟩

/-- C17.3 a receiver that knows only the header: rejected parts leave the set unchanged … -/
theorem rejected_part_leaves_set_unchanged (cfg : Cfg) (ps : PartSet) (p : Part) (v : Bool)
    (h : (addPart H N cfg ps p v).2 ≠ .added) : (addPart H N cfg ps p v).1 = ps := by
  rw [addPart_eq] at h ⊢
  exact if_neg h

/-- … a part is accepted ONLY IF it is genuine (index in range, slot empty, bytes hash to the
    genuine leaf, or a collision is exhibited) … -/
theorem accepted_only_if_genuine (cfg : Cfg) (hs : List Bytes) (r : Bytes) (hr : root N hs = some r)
    (ps : PartSet) (p : Part) (hinv : Inv H N hs r ps)
    (h : (addPart H N cfg ps p true).2 = .added) :
    ∃ i : Nat, p.index = (i : Int) ∧ ∃ hi : i < hs.length, ps.parts[i]? = some none ∧
      (H p.bytes = hs[i] ∨ CollisionN N) := by
  rw [addPart_snd] at h
  exact addDecide_added_genuine H N cfg hs r hr ps p hinv h

/-- … and IF it is the genuine part for an empty slot it is accepted. -/
theorem genuine_part_accepted (cfg : Cfg) (hs : List Bytes) (r : Bytes) (hr : root N hs = some r)
    (ps : PartSet) (hinv : Inv H N hs r ps) (i : Nat) (hi : i < hs.length)
    (hslot : ps.parts[i]? = some none) (bytes : Bytes) (hb : H bytes = hs[i]) :
    (addPart H N cfg ps ⟨(i : Int), bytes, aunts N hs i⟩ true).2 = .added := by
  rw [addPart_snd]
  refine (addDecide_added_iff H N cfg ps _ true).2 ⟨Int.natCast_nonneg i, ?_, ?_, fun _ => (verify_ok_true_iff N).2 ?_⟩
  · rw [hinv.total]; exact Int.ofNat_lt.2 hi
  · rw [Int.toNat_natCast]; exact hslot
  · rw [hinv.total, hinv.hash, hb, ← hr]
    exact computeRev_complete N cfg hs i hi

/-- every set reachable from the header satisfies the invariant used above (so the three
    theorems apply to every state a receiver can be in). -/
theorem reachable_inv (cfg : Cfg) (hs : List Bytes) (r : Bytes) (hr : root N hs = some r)
    (arrivals : List Part) :
    Inv H N hs r (addAll H N cfg (fromHeader hs.length r) arrivals) :=
  addAll_inv H N cfg hs r hr arrivals _ (inv_fromHeader H N hs r)

/-- C17.3b (repaired) no part — any integer index, any bytes, any proof — makes `AddPart` panic. -/
theorem addPart_never_panics_repaired (hs : List Bytes) (r : Bytes) (ps : PartSet) (p : Part)
    (v : Bool) (hinv : Inv H N hs r ps) : (addPart H N repaired ps p v).2 ≠ .panic := by
  rw [addPart_snd, addDecide]
  by_cases hg : ((repaired.checkNeg && decide (p.index < 0)) || decide (p.index ≥ (ps.total : Int))) = true
  · rw [if_pos hg]
    nofun
  have hr : ¬ p.index < 0 ∧ p.index < (ps.total : Int) := by
    simp [repaired] at hg; omega
  have hlt : p.index.toNat < ps.parts.length := by rw [hinv.len, ← hinv.total]; omega
  -- in range the slot exists and the proof check answers yes or no: no leaf that is left is the panic
  obtain ⟨b, hb⟩ := verify_total_repaired N p.index ps.total (H p.bytes) p.aunts ps.hash
  rw [if_neg hg, if_neg hr.1, List.getElem?_eq_getElem hlt, hb]
  cases ps.parts[p.index.toNat] <;> cases v <;> cases b <;> nofun

/-- C17.3c AS FOUND a part with index −1 panics (`ps.parts[-1]`). -/
theorem asFound_negative_index_panics (ps : PartSet) (b : Bytes) (as : List Bytes) (v : Bool) :
    (addPart H N asFound ps ⟨-1, b, as⟩ v).2 = .panic := by
  rw [addPart_snd]
  unfold addDecide
  have : ¬ ((-1 : Int) ≥ (ps.total : Int)) := by omega
  simp [asFound, this]

/-- C17.4 exact reassembly, for every data length, every part size > 0, every arrival sequence. -/
theorem exact_reassembly (cfg : Cfg) (data : Bytes) (sz : Nat) (hsz : 0 < sz) (r : Bytes)
    (hr : root N ((chunks sz data).map H) = some r) (arrivals : List Part)
    (hcomplete : isComplete (addAll H N cfg (fromHeader (chunks sz data).length r) arrivals) = true) :
    assemble (addAll H N cfg (fromHeader (chunks sz data).length r) arrivals) = data
      ∨ CollisionN N ∨ CollisionH H :=
  reassembly H N cfg data sz hsz r hr arrivals hcomplete

/-- C17.5 the sender's own set reads back as the data (split ∘ join = id). -/
theorem split_join (data : Bytes) (sz : Nat) (hsz : 0 < sz) : (chunks sz data).flatten = data :=
  chunks_flatten sz hsz data

/-! ### non-vacuity: the hypotheses above are met by concrete non-trivial states -/

/-- a toy transparent hash and combiner (what the correspondence harness injects as `DoHash`) -/
def tH : Bytes → Bytes := fun b => 0x68 :: b
def tN : Bytes → Bytes → Bytes := fun l r => tH (wireByteSlice l ++ wireByteSlice r)

example : (chunks 2 [1, 2, 3, 4, 5]) = [[1, 2], [3, 4], [5]] := by decide
example : root tN ((chunks 2 [1, 2, 3, 4, 5]).map tH) =
    some (tN (tN (tH [1, 2]) (tH [3, 4])) (tH [5])) := by
  simp [root, combine, chunks, chunksAux]

end AnnVerif.C17
