/-
  C05 — Replicated execution is deterministic: hashes depend only on the chain (the wrapper).

  Model: Model/App.lean. The model is a FUNCTION of the replica's persisted state, the block and
  the receipts the EVM returns (oracle), so the worker count of the signature verifier and the
  schedule do not occur in it at all; that the real parallel verifier yields what the sequential
  function yields is decided per run by replica C (one worker) against replica A (eight).
  PROVED (repaired code), for every hash function, every chain and every oracle:
    D1  at every block boundary the per-block accumulators (receipts, key-value records) are
        empty, so stopping the process and starting it again at a block boundary changes nothing;
    D2  hence for EVERY chain and EVERY placement of restarts between blocks the sequence of
        (verdicts, receipts hash) per block and the final accounts equal those of the run without
        restarts — the hashes are a function of genesis and blocks alone;
    D3  the receipts hash of a block is the Merkle root over exactly this block's receipts and
        key-value records;
    as found (key-value records never cleared): a replica restarted between two blocks computes
        another receipts hash than one that kept running — counter-theorem, replayed on the code.
-/
import AnnVerif.Lemmas.App
namespace AnnVerif.C05
open AnnVerif AnnVerif.App

section
variable (N : Bytes → Bytes → Bytes)

/-- D1 -/
theorem block_leaves_clean (app : App) (txs : List Tx) (o : List Bytes) :
    Clean (block N repaired app txs o).1 :=
  block_clean N repaired rfl app txs o

/-- D2 -/
theorem restarts_do_not_matter : ∀ (evs : List Ev) (app : App), Clean app →
    run N repaired app evs = run N repaired app (evs.filter isBlk) :=
  run_filter_isBlk N repaired rfl

/-- D3: what the receipts hash of a block covers, from a clean boundary -/
theorem receipts_hash_covers_this_block (app : App) (hc : Clean app) (txs : List Tx) (o : List Bytes) :
    (block N repaired app txs o).2.rhash =
      Merkle.root N ((execTxs repaired app.accounts txs o [] [] []).2.1 ++ (execTxs repaired app.accounts txs o [] [] []).2.2.1) := by
  obtain ⟨h1, h2⟩ := hc
  unfold block
  simp [h1, h2]

end

/-- two blocks with one key-value transaction each -/
def b1 : Ev := .blk [.signed 0 0 (.kv [1] [1] true) 0 0 0 0 0] []
def b2 : Ev := .blk [.signed 0 1 (.kv [2] [2] true) 0 0 0 0 0] []

def cat : Bytes → Bytes → Bytes := fun l r => l ++ r

/-- as found the replica that kept running hashes the key-value record of block 1 again into the
    receipts hash of block 2; the restarted one does not -/
theorem asFound_restart_changes_receipts_hash :
    ((run cat asFound {} [b1, b2]).2.map (·.records)) ≠ ((run cat asFound {} [b1, .restart, b2]).2.map (·.records)) ∧
    ((run cat repaired {} [b1, b2]).2.map (·.records)) = ((run cat repaired {} [b1, .restart, b2]).2.map (·.records)) := by
  decide

example : Clean ({} : App) := ⟨rfl, rfl⟩

end AnnVerif.C05
