/-
  C16 — Proposer selection is deterministic and proportional to voting power.

  Model: Model/ValSet.lean (IncrementAccum with the literal container/heap for the as-found batched
  form and "first maximum" for the repaired iterated form, Proposer() with its nil-cache
  recomputation, Copy, wire reload, Add/Update/Remove, the totalVotingPower cache).
  Lemmas: Fairness.lean (abstract theorem for ANY tie-break), ValSetFair.lean (the list model
  refines it), ValSetMembers.lean (order on addresses, sortedness, cache).
-/
import AnnVerif.Lemmas.ValSetFair
import AnnVerif.Lemmas.ValSetMembers
namespace AnnVerif.C16
open AnnVerif AnnVerif.ValSet AnnVerif.Fairness

/-- C16.1 PATH INDEPENDENCE (repaired): going through `a` rounds and then `b` more selects the same
    proposers and leaves the same accums as skipping `a + b` rounds at once — for every validator
    set. So a replica that skipped rounds agrees with one that went through each of them. -/
theorem increment_path_independent (vs : ValSet) (a b : Nat) :
    incrementAccum repaired vs (a + b) =
      incrementAccum repaired (incrementAccum repaired vs a) b := by
  rw [incrementAccum_repaired, incrementAccum_repaired, incrementAccum_repaired]
  exact iter_add incrOnce a b vs

/-- C16.1' AS FOUND path independence is FALSE: powers (1,3), two rounds at once vs one by one. -/
def w13 : ValSet := ⟨[⟨[1], 1, 0⟩, ⟨[2], 3, 0⟩], none, 0⟩

theorem asFound_batched_differs :
    incrementAccum asFound w13 2 ≠ incrementAccum asFound (incrementAccum asFound w13 1) 1 := by
  decide

/-- C16.1c the persistence AS FOUND (and still the bare wire round trip of a set): the cached
    proposer is not persisted, and `Proposer()` recomputes it from accums that have ALREADY been
    decremented — a restarted replica names a different round-0 proposer than one that kept
    running. Witness: four equal validators. -/
def w4 : ValSet := ⟨[⟨[1], 1, 0⟩, ⟨[2], 1, 0⟩, ⟨[3], 1, 0⟩, ⟨[4], 1, 0⟩], none, 0⟩

theorem reload_changes_proposer (cfg : Cfg) :
    (proposer (incrementAccum cfg w4 1)).2 = some [1] ∧
    (proposer (reload (incrementAccum cfg w4 1))).2 = some [2] := by
  cases cfg with
  | mk it => cases it <;> decide

/-- C16.1d the REPAIRED state persistence (the proposer's address is stored behind the state's
    wire bytes and restored on load): a restarted replica names the proposer the running one names,
    for EVERY set, and every later increment/selection is the same too (only the total-power cache,
    which is recomputed on demand, differs). -/
theorem state_reload_keeps_proposer (vs : ValSet) :
    (proposer (reloadState true vs)).2 = (proposer vs).2 ∧
    (reloadState true vs).vals = vs.vals ∧ (reloadState true vs).proposer = vs.proposer := by
  refine ⟨?_, rfl, rfl⟩
  obtain ⟨vals, cached, total⟩ := vs
  cases vals <;> cases cached <;> rfl

theorem asFound_state_reload_changes_proposer (cfg : Cfg) :
    (proposer (reloadState false (incrementAccum cfg w4 1))).2 ≠ (proposer (incrementAccum cfg w4 1)).2 := by
  obtain ⟨kept, reloaded⟩ := reload_changes_proposer cfg
  show (proposer (reload (incrementAccum cfg w4 1))).2 ≠ _
  rw [kept, reloaded]
  decide

/-- C16.2 FAIRNESS (repaired, single increments): a validator set whose accums are all zero (the
    state `NewValidatorSet` starts from) selects validator `j` exactly `power j` times in
    `T = total voting power` consecutive rounds, and is then back at zero accums — so the sequence
    of proposers is periodic with period `T` and EVERY window of `T` consecutive selections on it
    contains each validator exactly `power` times. `chAt … n` is the position selected in round
    `n+1` and is what `Proposer()` returns after it (second conjunct). -/
theorem proportional_selection (vs0 : ValSet) (hne : vs0.vals ≠ [])
    (hw : ∀ v ∈ vs0.vals, 0 ≤ v.power) (hTpos : 0 < sumPower vs0.vals)
    (hc : vs0.total = 0 ∨ vs0.total = sumPower vs0.vals)
    (hz : vs0.vals.map (·.accum) = List.replicate vs0.vals.length 0) :
    let ws := vs0.vals.map (·.power)
    let T := sumPower vs0.vals
    (∀ j, j < vs0.vals.length → cnt (chAt ws T) T.toNat j = wf ws j) ∧
    (∀ n, (proposer (iter incrOnce (n + 1) vs0)).2 = (vs0.vals[chAt ws T n]?).map (·.addr)) ∧
    (iter incrOnce T.toNat vs0).vals.map (·.accum) = List.replicate vs0.vals.length 0 := by
  intro ws T
  have hws : ∀ p ∈ ws, 0 ≤ p := fun p hp =>
    have ⟨v, hv, e⟩ := List.mem_map.1 hp
    e ▸ hw v hv
  obtain ⟨f1, f2⟩ := stepAcc_fair ws hws T rfl hTpos
  refine ⟨fun j hj => f1 j (by simpa [ws] using hj), ?_, ?_⟩
  · intro n
    unfold proposer
    cases hv : (iter incrOnce (n + 1) vs0).vals with
    | nil => exact absurd hv (iter_incrOnce_ne_nil vs0 hne (n + 1))
    | cons x t =>
      simp only
      have hci : chAt ws T n < vs0.vals.length := by
        simpa [ws] using (chAt_valid ws T (by simpa [ws] using hne) n).1
      rw [iter_incrOnce_proposer vs0 hc hne hz n, List.getElem?_eq_getElem hci]
      rfl
  · rw [iter_incrOnce_refines vs0 hc hne hz T.toNat, f2]
    simp [ws]

/-- the abstract statement behind it, for ANY tie-break among maxima (Lemmas/Fairness.lean) -/
theorem proportional_selection_any_tiebreak (N : Nat) (w : Nat → Int) (T : Int) (ch : Nat → Nat)
    (hw : ∀ j, j < N → 0 ≤ w j) (hT : T = S N w) (hTpos : 0 < T)
    (hvalid : ∀ n : Nat, (n : Int) < T → ValidAt N w T ch n) :
    (∀ j, j < N → cnt ch T.toNat j = w j) ∧ (∀ j, j < N → acc w T ch T.toNat j = 0) :=
  fair N w T ch hw hT hTpos hvalid

/-- C16.3 `Add`, `Update`, `Remove` keep the set strictly sorted by address — sorted AND
    duplicate-free — for every sequence of such operations. Increments keep the order too
    (`mstep_sorted`, Lemmas/ValSetFair.lean), so the hypothesis on the sequence is not used. -/
theorem members_sorted (vs : ValSet) (hs : Sorted vs.vals) (ops : List MOp)
    (hnoincr : ∀ op ∈ ops, ∀ k, op ≠ .incr k) :
    Sorted (ops.foldl (mstep repaired) vs).vals :=
  List.foldlRecOn (motive := fun vs : ValSet => Sorted vs.vals) ops _ hs fun vs hs op _ => mstep_sorted vs op hs

/-- C16.4 the cached total is never stale: after any sequence of membership changes
    `TotalVotingPower()` returns the true sum of the current powers. -/
theorem total_never_stale (vs : ValSet) (hc : CacheOK vs) (ops : List MOp)
    (hnoincr : ∀ op ∈ ops, ∀ k, op ≠ .incr k) :
    (totalVotingPower (ops.foldl (mstep repaired) vs)).2 =
      sumPower (ops.foldl (mstep repaired) vs).vals :=
  (totalVotingPower_correct _
    (List.foldlRecOn (motive := CacheOK) ops _ hc fun vs hc op _ => mstep_cacheOK vs op hc)).1

/-! ### non-vacuity -/

example : Sorted w4.vals := by simp [Sorted, w4, bytesLt]
example : (proposer (iter incrOnce 3 ⟨[⟨[1], 1, 0⟩, ⟨[2], 3, 0⟩], none, 0⟩)).2 = some [2] := by decide
example : ((List.range 4).map fun n =>
    (proposer (iter incrOnce (n + 1) ⟨[⟨[1], 1, 0⟩, ⟨[2], 3, 0⟩], none, 0⟩)).2) =
    [some [2], some [1], some [2], some [2]] := by decide

end AnnVerif.C16
