/-
  C02 — Every committed block is valid and carries a verifiable +2/3 commit.

  Model: Model/Block.lean (`validateBlock` = ConsensusState.ValidateBlock + Block.ValidateBasic +
  Block.ValidateCommit + Commit.ValidateBasic, in code order) over the VerifyCommit model of C15.
  The node commits a block only after `validateBlock` accepted it (C04.finalizeCommit_emits: a
  commit is emitted only for a block with `isValid`, which the c04/c07/c01 engines tie to the real
  `state.ValidateBlock`), so what acceptance implies is what every committed block satisfies.

  PROVED, for every state, every block, every assignment of the signature oracle:
    V1  acceptance ⇒ the block extends the chain (height, previous-block id, app hash, receipts
        hash, chain id) and every header commitment equals the digest of what the block carries
        (data, last commit, validator set) and the proposer is a validator;
    V2  acceptance at height > 1 ⇒ the embedded last commit JUSTIFIES the previous block: one
        round, every non-nil slot a precommit of height-1 in that round whose signature verifies
        under the key at its position, and the slots for exactly `lastBlockID` hold > 2/3 of the
        power of LastValidators (each position counted once);
    V3  acceptance at height 1 ⇒ no precommits;
    V4  (as found) the validator-set commitment is NOT implied: a block with an arbitrary
        ValidatorsHash is accepted — counter-theorem with witness, replayed on the code;
    V5  completeness for the honest proposer: the commit assembled from a +2/3 precommit majority
        passes (C15.commit_verifies), so an honest block with consistent fields is accepted.
  The stored seen-commit re-verifying is C15.commit_verifies (MakeCommit of a majority passes
  VerifyCommit for the same set).
-/
import AnnVerif.Lemmas.BlockValid
namespace AnnVerif.C02
open AnnVerif AnnVerif.VoteSet AnnVerif.Block

/-- V1: header and linkage -/
structure Extends (st : State) (b : Block) : Prop where
  chain : b.hdr.chainID = st.chainID
  height : b.hdr.height = st.lastBlockHeight + 1
  prev : b.hdr.lastBlockID = st.lastBlockID
  app : b.hdr.appHash = st.appHash
  receipts : b.hdr.receiptsHash = st.receiptsHash
  numTxs : b.hdr.numTxs = b.nTxs
  dataCommit : b.hdr.dataHash = b.dataDigest
  lastCommitCommit : b.hdr.lastCommitHash = b.commitDigest
  proposer : hasAddress st.validators b.hdr.proposer = true

theorem accepted_extends (cfg : Block.Cfg) (sigok : Nat → Vote → Bool) (st : State) (b : Block)
    (h : validateBlock cfg sigok st b = .ok) : Extends st b := by
  obtain ⟨hb, hc, hp, _, _⟩ := (validateBlock_eq_ok cfg sigok st b).mp h
  obtain ⟨chain, height, numTxs, prev, dataCommit, app, receipts⟩ := (validateBasic_eq_ok st b).mp hb
  exact { chain, height, prev, app, receipts, numTxs, dataCommit,
          lastCommitCommit := ((validateCommit_eq_ok cfg b).mp hc).1, proposer := hp }

/-- V1 (repaired): the validator-set commitment is the hash of the height's validator set -/
theorem accepted_commits_to_validators (sigok : Nat → Vote → Bool) (st : State) (b : Block)
    (h : validateBlock Block.repaired sigok st b = .ok) : b.hdr.validatorsHash = st.valHash :=
  ((validateBlock_eq_ok _ sigok st b).mp h).2.2.2.1 rfl

/-- V2: the last commit of an accepted block above height 1 justifies the previous block -/
theorem accepted_last_commit_justifies (cfg : Block.Cfg) (sigok : Nat → Vote → Bool) (st : State) (b : Block)
    (hpos : ∀ val ∈ st.lastValidators, 0 ≤ val.power)
    (h : validateBlock cfg sigok st b = .ok) (hh : b.hdr.height ≠ 1) :
    CommitJustifies sigok st.lastValidators st.lastBlockID (b.hdr.height - 1) b.commit :=
  have hlc := ((validateBlock_eq_ok cfg sigok st b).mp h).2.2.2.2
  verifyCommit_sound cfg.vs sigok _ _ _ _ hpos ((validateLastCommit_later cfg sigok st b hh).mp hlc).2

/-- V3: the first block carries no precommits -/
theorem accepted_first_block (cfg : Block.Cfg) (sigok : Nat → Vote → Bool) (st : State) (b : Block)
    (h : validateBlock cfg sigok st b = .ok) (hh : b.hdr.height = 1) : b.commit.precommits = [] :=
  have hlc := ((validateBlock_eq_ok cfg sigok st b).mp h).2.2.2.2
  (validateLastCommit_first cfg sigok st b hh).mp hlc

/-! ### V4: as found, the validator-set commitment is unconstrained -/

def wState : State :=
  ⟨"c", 0, ⟨[], 0, []⟩, [], [], [⟨[1], 1⟩], [], [0xAA]⟩

/-- an otherwise honest first block whose ValidatorsHash is not the hash of the validator set -/
def wBlock : Block :=
  ⟨⟨"c", 1, 0, ⟨[], 0, []⟩, [0xD0], [0xC0], [0x66], [], [], [1]⟩, 0, [0xD0], [0xC0], ⟨⟨[], 0, []⟩, []⟩⟩

theorem asFound_accepts_foreign_validators_hash :
    validateBlock Block.asFound (fun _ _ => false) wState wBlock = .ok ∧
    wBlock.hdr.validatorsHash ≠ wState.valHash ∧
    validateBlock Block.repaired (fun _ _ => false) wState wBlock = .valHash := by decide

/-! ### non-vacuity: an accepted block at height 2 with a real 3-of-4 commit -/

def exVals : List Validator := [⟨[1], 1⟩, ⟨[2], 1⟩, ⟨[3], 1⟩, ⟨[4], 1⟩]
def exPrev : BlockID := ⟨[0xB1], 1, [0xB2]⟩
def exState : State := ⟨"c", 1, exPrev, [0xA1], [0xA2], exVals, exVals, [0xAA]⟩
def pc (i : Int) (a : UInt8) : Option Vote := some ⟨i, [a], 1, 0, 2, exPrev, 0⟩
def exBlock : Block :=
  ⟨⟨"c", 2, 1, exPrev, [0xD0], [0xC0], [0xAA], [0xA1], [0xA2], [2]⟩, 1, [0xD0], [0xC0],
   ⟨exPrev, [pc 0 1, none, pc 2 3, pc 3 4]⟩⟩

example : validateBlock Block.repaired (fun _ _ => true) exState exBlock = .ok := by decide
example : validateBlock Block.repaired (fun i _ => i != 2) exState exBlock = .verify .sig := by decide

end AnnVerif.C02
