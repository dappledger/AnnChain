/-
  C08 — No peer input can crash or wedge an honest node (consensus message handlers).

  Model: Model/Node.lean (`handleMsg`, `handleTimeout`), Model/VoteSet.lean (`addVote`).
  PROVED, for every node state and every message field value (any Int for heights, rounds,
  indices; any bytes for addresses; any signature-oracle bit):
    X1  a vote rejected by a vote set (duplicate, wrong step, bad index, bad address, bad
        signature) leaves the vote set exactly as it was;
    X2  `setProposal` changes the state ONLY if the proposal is for the node's height and round,
        arrives before the commit step, has a well-formed POL round, is signed by the round's
        proposer, and no proposal is held yet; otherwise the node is exactly as it was;
    X3  block parts for another height, without a part-set header to fill, after completion, or
        with a proof for another block leave the node exactly as it was;
    X4  a vote for a height other than the node's height or the one before, a vote of the previous
        height that is not a precommit arriving in NewHeight, a vote with an invalid type, and a
        timeout for another height / an earlier round / an earlier step leave the node exactly as
        it was;
    X5  a vote that fails signature verification leaves the CORE of the node (height, round, step,
        lock, proposal, block, parts, commit round, queue, emitted timeouts/commits, signer, last
        commit) exactly as it was — for every state, every round number and every peer;
    X6  (repaired) a straggler precommit at height 1, where there is no last commit, is ignored;
        as found it reached AddVote on a nil VoteSet and panicked the consensus routine —
        counter-theorem with witness, replayed on the code.
    X10 over every RUN of the (repaired) state machine - any messages from any peers, the node's
        own queued messages, any timeouts, from a fresh node - an assembled `ProposalBlock` has its
        complete part set and `finalizeCommit` never hands `BlockStore.SaveBlock` an incomplete one
        (Lemmas/Assembled.lean: an inductive invariant through every handler); as found a late
        proposal emptied the part set of an assembled block and the commit panicked -
        counter-theorems (general and on a concrete 4-validator history), witness replayed on the code.
  The model's handlers are total functions; that the real handlers return (no panic) on every
  input of the hostile catalogue, in every step, and that the node still commits afterwards
  ("not wedged") is decided per run by the c08 engine, with zero divergences from the model.
  NOT covered here (named in the manifest): the reactors' byte decoders and PeerState bookkeeping
  (reactor.go), block-sync, mempool and PEX channels.
-/
import AnnVerif.Model.Node
import AnnVerif.Model.BitArr
import AnnVerif.Lemmas.Assembled
import AnnVerif.Lemmas.NodeStart
namespace AnnVerif.C08
open AnnVerif AnnVerif.Node

/-- the outputs of `VoteSet.addVote` that mean "did not pass validation" -/
def Rejected : VoteSet.Out → Prop
  | .dup | .errStep | .errIndex | .errAddr | .errSig => True
  | _ => False

theorem addVerified_not_rejected (cfg : VoteSet.Cfg) (vs : VoteSet.VoteSet) (v : VoteSet.Vote) (i : Nat)
    (key : Bytes) (power : Int) : ¬ Rejected (VoteSet.addVerified cfg vs v i key power).2 := by
  unfold VoteSet.addVerified
  split
  · simp [Rejected]
  · split
    · simp [Rejected]
    · split <;> simp [Rejected]

/-- X1 -/
theorem voteset_rejected_unchanged (cfg : VoteSet.Cfg) (vs : VoteSet.VoteSet) (v : VoteSet.Vote) (sigok : Bool)
    (h : Rejected (VoteSet.addVote cfg vs v sigok).2) : (VoteSet.addVote cfg vs v sigok).1 = vs := by
  rcases VoteSet.addVote_cases cfg vs v sigok with ⟨_, e, _⟩ | ⟨_, _, _, _, _, _, _, _, _, e⟩
  · rw [e]
  · rw [e] at h
    exact absurd h (addVerified_not_rejected _ _ _ _ _ _)

/-- a failing signature never gets a vote added, and never changes the set -/
theorem voteset_bad_signature (cfg : VoteSet.Cfg) (vs : VoteSet.VoteSet) (v : VoteSet.Vote) :
    (VoteSet.addVote cfg vs v false).1 = vs ∧ wasAdded (VoteSet.addVote cfg vs v false).2 = false := by
  rcases VoteSet.addVote_cases cfg vs v false with ⟨o, e, h1, h2⟩ | ⟨h, _⟩
  · rw [e]
    refine ⟨rfl, ?_⟩
    cases o with
    | added => exact absurd rfl h1
    | conflict a => exact absurd rfl (h2 a)
    | _ => rfl
  · cases h

/-- X2: what it takes for a proposal to change anything -/
theorem setProposal_changes_only_if_valid (n : Node) (p : Proposal) (signer : Nat) (sigBad : Bool)
    (hne : setProposal n p signer sigBad ≠ n) :
    n.proposal = none ∧ p.height = n.height ∧ p.round = n.round ∧ n.step < Step.commit ∧
    (p.polRound = -1 ∨ (0 ≤ p.polRound ∧ p.polRound < p.round)) ∧ proposalSigOk n signer sigBad = true ∧
    (setProposal n p signer sigBad = { n with proposal := some p, proposalParts := some p.block, partsComplete := false } ∨
     (n.cfg.proposalKeepsParts = true ∧ n.proposalParts.isSome = true ∧
      setProposal n p signer sigBad = { n with proposal := some p })) := by
  unfold setProposal at hne ⊢
  obtain ⟨h0, hne⟩ := ne_of_ite_ne hne
  obtain ⟨h1, hne⟩ := ne_of_ite_ne hne
  obtain ⟨h2, hne⟩ := ne_of_ite_ne hne
  obtain ⟨h3, hne⟩ := ne_of_ite_ne hne
  obtain ⟨h4, _⟩ := ne_of_ite_ne hne
  rw [if_neg h0, if_neg h1, if_neg h2, if_neg h3, if_neg h4]
  refine ⟨by simpa using h0, Classical.not_not.mp fun x => h1 (Or.inl x), Classical.not_not.mp fun x => h1 (Or.inr x),
    Nat.lt_of_not_le h2, ?_, by simpa using h4, ?_⟩
  · by_cases hp : p.polRound = -1
    · exact Or.inl hp
    · exact Or.inr ⟨Int.not_lt.mp fun x => h3 ⟨hp, Or.inl x⟩, Int.not_le.mp fun x => h3 ⟨hp, Or.inr x⟩⟩
  · by_cases h5 : n.cfg.proposalKeepsParts = true ∧ n.proposalParts.isSome = true
    · exact Or.inr ⟨h5.1, h5.2, if_pos h5⟩
    · exact Or.inl (if_neg h5)

/-- the signature bit is true only for an untampered signature by the validator the node computed
    as proposer of the round -/
theorem proposalSigOk_means (n : Node) (signer : Nat) (sigBad : Bool) (h : proposalSigOk n signer sigBad = true) :
    sigBad = false ∧ ∃ v, n.vals.vals[signer]? = some v ∧ proposerAddr n = some v.addr := by
  unfold proposalSigOk at h
  simp only [Bool.and_eq_true, Bool.not_eq_true'] at h
  obtain ⟨hb, hm⟩ := h
  refine ⟨hb, ?_⟩
  split at hm
  · rename_i pa v hpa hv
    exact ⟨v, hv, by rw [hpa, beq_iff_eq.mp hm]⟩
  · cases hm

/-- X3: when block parts are dropped without effect -/
theorem addParts_ignored (n : Node) (height : Int) (block : Name) (own : Bool)
    (h : n.height ≠ height ∨ n.proposalParts = none ∨ n.partsComplete = true ∨
         (n.proposalParts ≠ some block ∧ (n.cfg.verifyOwnParts = true ∨ own = false))) :
    addParts n height block own = n := by
  unfold addParts
  refine ite_eq_left_iff.mpr fun c1 => ite_eq_left_iff.mpr fun c2 => ite_eq_left_iff.mpr fun c3 => if_pos ?_
  rcases h with h | h | h | ⟨h, hh⟩
  · exact absurd h c1
  · exact absurd (by rw [h]; rfl) c2
  · exact absurd h c3
  · exact ⟨h, hh.imp_right fun e => by rw [e]; rfl⟩

/-- X4: votes of foreign heights are ignored -/
theorem vote_foreign_height_ignored (n : Node) (v : VoteSet.Vote) (sigok : Bool) (peer : String)
    (h1 : v.height ≠ n.height) (h2 : v.height + 1 ≠ n.height) : addVote n v sigok peer = n := by
  unfold addVote
  rw [if_neg h2, if_neg h1]

theorem vote_previous_height_ignored (n : Node) (v : VoteSet.Vote) (sigok : Bool) (peer : String)
    (h : v.height + 1 = n.height) (hs : n.step ≠ .newHeight ∨ v.type ≠ 2) : addVote n v sigok peer = n := by
  have : (!decide (n.step = Step.newHeight ∧ v.type = 2)) = true := by
    rcases hs with hs | hs <;> simp [hs]
  unfold addVote
  rw [if_pos h, if_pos this]

theorem vote_invalid_type_ignored (n : Node) (v : VoteSet.Vote) (sigok : Bool) (peer : String)
    (h : v.height = n.height) (ht : v.type ≠ 1 ∧ v.type ≠ 2) : addVote n v sigok peer = n := by
  have hne : ¬ (v.height + 1 = n.height) := by omega
  unfold addVote
  rw [if_neg hne, if_pos h]
  unfold hvsAddVote
  rw [if_pos ht]
  rfl

theorem timeout_stale_ignored (n : Node) (h r : Int) (s : Step)
    (hst : h ≠ n.height ∨ r < n.round ∨ (r = n.round ∧ s < n.step)) : handleTimeout n h r s = n := by
  unfold handleTimeout
  exact if_pos hst

/-- the part of the node that decides what it does next and what it has emitted -/
structure Core where
  height : Int
  round : Int
  step : Step
  lockedRound : Int
  lockedBlock : Option Name
  proposal : Option Proposal
  proposalBlock : Option Name
  proposalParts : Option Name
  partsComplete : Bool
  commitRound : Int
  queue : List Msg
  out : List Emit
  signer : Signer.St
  lastCommit : Option VoteSet.VoteSet

def core (n : Node) : Core :=
  ⟨n.height, n.round, n.step, n.lockedRound, n.lockedBlock, n.proposal, n.proposalBlock, n.proposalParts,
   n.partsComplete, n.commitRound, n.queue, n.out, n.signer, n.lastCommit⟩

theorem hvsAddVote_bad_signature (n : Node) (v : VoteSet.Vote) (peer : String) :
    core (hvsAddVote n v false peer).1 = core n ∧ wasAdded (hvsAddVote n v false peer).2 = false := by
  obtain ⟨m, hm, e⟩ := hvsAddVote_eq n v false peer
  have hc : core m = core n := by
    rcases hm with rfl | ⟨c, rfl⟩ <;> rfl
  rcases e with e | ⟨rv, _, e⟩
  · rw [e]; exact ⟨hc, rfl⟩
  · rw [e]; exact ⟨hc, (voteset_bad_signature _ _ v).2⟩

/-- X5: a vote whose signature does not verify leaves the core of the node as it was -/
theorem vote_bad_signature_core_unchanged (n : Node) (v : VoteSet.Vote) (peer : String)
    (hc : n.cfg.guardNilLastCommit = true) :
    core (addVote n v false peer) = core n := by
  unfold addVote
  by_cases h1 : v.height + 1 = n.height
  · rw [if_pos h1]
    refine iteInduction (motive := fun m : Node => core m = core n) (fun _ => rfl) fun _ => ?_
    cases hl : n.lastCommit with
    | none => exact congrArg core (if_pos hc)
    | some lc =>
      -- the last commit stays as it is and nothing counts as added
      have hb := voteset_bad_signature VoteSet.repaired lc v
      dsimp only
      rw [if_neg (by simp [hb.2]), hb.1]
      simp [core, hl]
  · rw [if_neg h1]
    refine iteInduction (motive := fun m : Node => core m = core n) (fun _ => ?_) fun _ => rfl
    have hb := hvsAddVote_bad_signature n v peer
    generalize hvsAddVote n v false peer = res at hb ⊢
    obtain ⟨m, o⟩ := res
    dsimp only at hb ⊢
    rw [if_pos (by simp [hb.2])]
    exact hb.1

/-! ### X6: the nil last commit -/

def v4 : ValSet.ValSet := ValSet.newValSet ValSet.repaired
  [⟨[1], 1, 0⟩, ⟨[2], 1, 0⟩, ⟨[3], 1, 0⟩, ⟨[4], 1, 0⟩]

/-- a precommit for height 0 from validator 0 -/
def straggler0 : VoteSet.Vote := ⟨0, [1], 0, 0, 2, ⟨[], 0, []⟩, 0⟩

def hasPanic (n : Node) : Bool := n.out.any fun e => match e with | .panic _ => true | _ => false

theorem asFound_straggler_at_height_one_panics :
    hasPanic (handleMsg (Node.init asFound 1 v4 (some 1) false) (.vote straggler0 true) "p") = true := by decide

theorem repaired_straggler_at_height_one_ignored (n : Node) (v : VoteSet.Vote) (sigok : Bool) (peer : String)
    (hc : n.cfg.guardNilLastCommit = true) (hl : n.lastCommit = none) (h : v.height + 1 = n.height) :
    addVote n v sigok peer = n := by
  unfold addVote
  rw [if_pos h, hl]
  exact iteInduction (motive := (· = n)) (fun _ => rfl) fun _ => if_pos hc

example : (Node.init repaired 1 v4 (some 1) false).cfg.guardNilLastCommit = true ∧
          (Node.init repaired 1 v4 (some 1) false).lastCommit = none := by decide

/-! ### X10: an assembled block keeps its parts (the late proposal) -/

/-- X10 (repaired), over every run: from a fresh node, after ANY sequence of peer messages (any
    peers, any fields), own queued messages and timeouts, an assembled `ProposalBlock` still has its
    complete part set, and `finalizeCommit` has never handed an incomplete part set to
    `BlockStore.SaveBlock` (which panics on one, on the consensus routine). -/
theorem run_never_saves_incomplete_part_set (height : Int) (vals : ValSet.ValSet) (me : Option Nat) (skip : Bool)
    (tab : List (Name × Int × Bool)) (ins : List In) :
    let n := ins.foldl stepIn (Node.start repaired height vals me skip tab)
    savePanic ∉ n.out ∧ ∀ b, n.proposalBlock = some b → n.partsComplete = true ∧ n.proposalParts = some b := by
  have g := run_good ins _ (start_good height vals me skip tab)
  exact ⟨g.nsp, g.asm⟩

/-- the invariant is inductive from ANY state that satisfies it, not only from a fresh node -/
theorem step_keeps_assembled (n : Node) (i : In) (g : Good n) : Good (stepIn n i) := good_stepIn n i g

/-- X10 (as found): a proposal that `defaultSetProposal` accepts while the block of that very part
    set is already assembled leaves the block in place and empties its part set. -/
theorem asFound_late_proposal_discards_parts (n : Node) (p : Proposal) (signer : Nat) (b : Name)
    (hc : n.cfg.proposalKeepsParts = false) (hb : n.proposalBlock = some b)
    (h0 : n.proposal = none) (h1 : p.height = n.height ∧ p.round = n.round) (h2 : n.step < Step.commit)
    (h3 : p.polRound = -1) (h4 : proposalSigOk n signer false = true) :
    (setProposal n p signer false).proposalBlock = some b ∧
    (setProposal n p signer false).partsComplete = false := by
  unfold setProposal
  have e2 : ¬ Step.commit ≤ n.step := Nat.not_le_of_lt h2
  -- none of the five tests that drop a proposal applies, and the part set is not kept
  simp [h0, h1.1, h1.2, e2, h3, h4, hc, hb]

/-- … and the commit of that block then reaches `SaveBlock` with the incomplete part set. -/
theorem incomplete_part_set_panics (n : Node) (h : Int) (bid : VoteSet.BlockID) (b : Name)
    (hh : n.height = h) (hs : n.step = .commit) (hm : maj23 (precommits n n.commitRound) = some bid)
    (hb : n.proposalBlock = some b) (hp : n.proposalParts = some (nameOf bid)) (he : b = nameOf bid)
    (hv : isValid n b = true) (hc : n.partsComplete = false) :
    savePanic ∈ (finalizeCommit n h).out := by
  unfold finalizeCommit
  subst he
  -- the block passes the three tests before `SaveBlock`, the part set does not
  simp [hh, hs, hm, hb, hp, hc, hv, emit, savePanic]

/-- the whole history on a concrete node (an observer of 4 validators): +2/3 prevotes for block "b"
    before any proposal, its parts, the proposal (from the round's proposer, validator 0), then
    +2/3 precommits -/
def lateProposal (cfg : Cfg) : Node :=
  let n := Node.init cfg 1 v4 none false
  let n := { n with validTab := [([0x62], 1, true)] }
  let n := handleTimeout n 1 0 .newHeight
  let n := handleMsg n (.vote ⟨0, [1], 1, 0, 1, bidOf [0x62], 1⟩ true) "p0"
  let n := handleMsg n (.vote ⟨1, [2], 1, 0, 1, bidOf [0x62], 2⟩ true) "p1"
  let n := handleMsg n (.vote ⟨2, [3], 1, 0, 1, bidOf [0x62], 3⟩ true) "p2"
  let n := handleMsg n (.parts 1 0 [0x62]) "p0"
  let n := handleMsg n (.proposal ⟨1, 0, [0x62], -1, []⟩ 0 false) "p0"
  let n := handleMsg n (.vote ⟨0, [1], 1, 0, 2, bidOf [0x62], 4⟩ true) "p0"
  let n := handleMsg n (.vote ⟨1, [2], 1, 0, 2, bidOf [0x62], 5⟩ true) "p1"
  handleMsg n (.vote ⟨2, [3], 1, 0, 2, bidOf [0x62], 6⟩ true) "p2"

theorem asFound_late_proposal_panics : savePanic ∈ (lateProposal { repaired with proposalKeepsParts := false }).out := by
  decide

theorem repaired_late_proposal_commits :
    (lateProposal repaired).out.contains (.commit 1 [0x62]) = true ∧ hasPanic (lateProposal repaired) = false := by
  decide

/-! ### X9: bit arrays as a peer sends them (Model/BitArr.lean)

  The consensus reactor stores the bit arrays of CommitStep / ProposalPOL / VoteSetBits messages in
  the peer state and its gossip goroutines - which nothing recovers - apply GetIndex, Sub, and/Not
  and PickRandom to them. For arrays of the shape `NewBitArray` makes (what the repaired reactor
  accepts) none of these can panic; for arrays as the decoder can produce them, each can. -/
section BitArrays
open AnnVerif.BitArr

theorem getIndex_safe (a : BA) (h : a.wf) (i : Nat) : getIndexPanics a i = false := by
  obtain ⟨h1, h2⟩ := h
  unfold getIndexPanics
  by_cases hi : (i : Int) < a.bits
  · have : ¬ (a.elems ≤ i / 64) := by omega
    simp [hi, this]
  · simp [hi]

theorem pickRandom_safe (a : BA) (h : a.wf) : pickRandomPanics a = false := by
  obtain ⟨h1, _⟩ := h
  unfold pickRandomPanics
  have : ¬ (Int.tmod a.bits 64 < 0) := by
    have := Int.tmod_nonneg 64 (Int.le_of_lt h1)
    omega
  simp [this]

theorem and_safe (a o : BA) (ha : a.wf) (ho : o.wf) : andPanics a o = false := by
  obtain ⟨a1, a2⟩ := ha
  obtain ⟨o1, o2⟩ := ho
  unfold andPanics
  have hmin : 0 < min a.bits o.bits := by omega
  have hdiv : Int.tdiv (min a.bits o.bits + 63) 64 = (min a.bits o.bits + 63) / 64 :=
    Int.tdiv_eq_ediv_of_nonneg (by omega)
  simp only [hdiv]
  have h1 : ¬ ((min a.bits o.bits + 63) / 64 < 0) := by omega
  have h2 : ¬ ((o.elems : Int) < (min a.bits o.bits + 63) / 64) := by omega
  simp [h1, h2]

theorem sub_safe (a o : BA) (ha : a.wf) (ho : o.wf) : subPanics a o = false := by
  unfold subPanics
  split
  · rename_i hgt
    obtain ⟨a1, a2⟩ := ha
    obtain ⟨o1, o2⟩ := ho
    have h1 : ¬ (o.elems ≥ a.elems + 2) := by omega
    have h2 : ¬ ((o.bits - 1) / 64 ≥ ((min a.elems o.elems : Nat) : Int)) := by
      have : (min a.elems o.elems : Nat) = o.elems := by
        apply Nat.min_eq_right; omega
      rw [this]; omega
    simp [h1, h2]
  · exact and_safe a o ha ho

/-- as received (as found nothing checked them): each operation of the gossip routines can panic -/
theorem malformed_bitarrays_panic :
    pickRandomPanics ⟨-45, 1⟩ = true ∧ andPanics ⟨1, 1⟩ ⟨5, 0⟩ = true ∧
    subPanics ⟨1000, 16⟩ ⟨500, 1⟩ = true ∧ getIndexPanics ⟨100000, 1⟩ 64 = true := by decide

example : (⟨130, 3⟩ : BA).wf ∧ ¬ (⟨-45, 1⟩ : BA).wf ∧ ¬ (⟨5, 0⟩ : BA).wf := by decide

end BitArrays

end AnnVerif.C08
