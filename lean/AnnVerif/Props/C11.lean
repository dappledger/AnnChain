/-
  C11 — State trie and state DB: root is a function of content; commit/revert exact.  (PARTIAL)

  Models: Model/Trie.lean (insert/delete/get/hash as in eth/trie), Model/StateJournal.lean (the
  journalled state database). PROVED:
    J1  every mutation of the state database is exactly undone by the journal entries it appends;
    J2  for EVERY sequence of mutations after a snapshot (nonce, balance, code, storage, account
        creation over an existing or a missing account, suicide), `RevertToSnapshot` restores
        exactly the accounts and the journal of the moment the snapshot was taken;
    J3  nested snapshots: reverting to an inner snapshot leaves the outer one valid, and reverting
        to the outer one afterwards restores its state — for every pair of mutation sequences;
    E1  `keybytesToHex` is injective (two byte keys never share a trie path);
    E2  hex-prefix (compact) encoding decodes back to the key for EVERY key a short node can carry
        (odd/even length, with/without terminator), hence is injective on them;
    M1  every update (write; delete = write of the empty value) keeps the trie invariant `TrieInv`
        (node shapes as trie.go maintains them: short nodes have non-empty keys and end in a value
        or a branch, values sit only where a key ends, every branch has at least two children);
    M2/M3  after an update the key reads as written (nothing, if deleted), every other key as before;
    M4  REFINEMENT: for every sequence of writes and deletes from the empty trie, `lookup` equals the
        lookup of the simple map the sequence describes;
    M5  HISTORY INDEPENDENCE: two sequences - any lengths, any order, any overwritten or deleted
        intermediate values - that describe the same map build the SAME trie, node for node
        (canonical form: a trie that satisfies the invariant is determined by its content);
    M6  hence the same root hash, for every hash function;
    M7  MERKLE PROOFS: `VerifyProof` (model: walk over DECODED RLP items, hash lookups in the proof
        set) run on what `Prove` returns for a key yields exactly the stored value or its absence,
        for every trie the application can build and every 32-byte hash function - or exhibits a
        hash collision.
    M8  the size hypothesis of M7 holds for every trie built from keys <= 2^30 bytes, values <= 2^32 bytes;
    M9  THE ROOT COMMITS TO THE CONTENT: equal root hashes => the same map for every key, unless the
        hash function collides (node encodings are injective: RLP, hex-prefix, embedded vs hashed
        references); with M6: equal roots <=> equal content up to collisions;
    M10 COMMIT AND REOPEN: the node set a commit writes, read from the root hash by fetch-decode-walk,
        returns for every key exactly what the in-memory trie holds (up to collisions);
    J4-J6  the per-block commit with deleteEmptyObjects.
  NOT proved (decided per run by the engine, three ways: in-tree code = Lean model = go-ethereum
  v1.8.27): equality with the reference implementation's root, the trie database's caching and
  garbage collection, the secure trie's key hashing, the account/storage layering of the state root. The hash itself
  (Keccak-256) is computed by the driver and is a parameter of every theorem (M6, M7 hold for any
  hash function; M7 up to collisions). The theorems are about Model/Trie.lean and
  Model/TrieProof.lean - the definitions the compiled driver runs against the Go code on every op.
-/
import AnnVerif.Lemmas.StateJournal
import AnnVerif.Lemmas.TrieBuild
import AnnVerif.Lemmas.TrieCommit
namespace AnnVerif.C11
open AnnVerif AnnVerif.StateJournal

/-! ### the journal (J1: `apply_ok`, `run_ok` in Lemmas/StateJournal.lean) -/

/-- J2 -/
theorem revert_to_snapshot_is_exact (d : DB) (hd : SnapsOK d) (ops : List Op) :
    ∃ d', revert (ops.foldl apply (snapshot d).1) (snapshot d).2 = some d' ∧
      d'.accts = d.accts ∧ d'.journal = d.journal ∧ d'.snaps = d.snaps :=
  have ⟨d', _, h⟩ := restores hd (run_ok ops _)
  ⟨d', h⟩

/-- J3: an inner snapshot taken and reverted in between does not disturb the outer one -/
theorem nested_snapshots (d : DB) (hd : SnapsOK d) (ops1 ops2 ops3 : List Op) :
    let outer := snapshot d
    let mid := ops1.foldl apply outer.1
    let inner := snapshot mid
    let deep := ops2.foldl apply inner.1
    ∃ back, revert deep inner.2 = some back ∧ back.accts = mid.accts ∧ back.journal = mid.journal ∧
      ∃ d', revert (ops3.foldl apply back) outer.2 = some d' ∧ d'.accts = d.accts ∧ d'.journal = d.journal ∧
        d'.snaps = d.snaps := by
  intro outer mid inner deep
  have hmid : StepOK outer.1 mid := run_ok ops1 _
  -- the inner snapshot, what follows it and the revert to it are together one more step from `mid`
  obtain ⟨back, hback, hr, ha, hj, _⟩ :=
    restores (hmid.snapsOK ((StepOK.snapshot d).snapsOK hd)) (run_ok ops2 inner.1)
  obtain ⟨d', _, h⟩ := restores hd ((hmid.trans hback).trans (run_ok ops3 back))
  exact ⟨back, hr, ha, hj, d', h⟩

/-- E1 -/
theorem keybytesToHex_injective (a b : Bytes) (h : Trie.keybytesToHex a = Trie.keybytesToHex b) : a = b :=
  Trie.keybytesToHex_inj h

/-! ### E2: hex-prefix encoding (proofs in Lemmas/TrieCompact.lean) -/

/-- E2 for keys without terminator and of even length (the extension-node case) -/
theorem compact_roundtrip_even (hex : List Nat) (n : Nat) (hl : hex.length = 2 * n) (hlt : ∀ x ∈ hex, x < 16) :
    Trie.compactToHex (Trie.hexToCompact hex) = hex := Trie.compact_roundtrip_nk hlt

/-- E2, complete: hex-prefix encoding decodes back to the key for EVERY key a well-formed trie can
    hold in a short node - odd or even length, with or without the terminator -/
theorem compact_roundtrip (k : Trie.Key) (h : Trie.TermKey k ∨ Trie.ExtKey k) :
    Trie.compactToHex (Trie.hexToCompact k) = k := Trie.compact_roundtrip k h

/-- hence two different keys of a well-formed trie never share a compact encoding -/
theorem hexToCompact_injective (a b : Trie.Key) (ha : Trie.TermKey a ∨ Trie.ExtKey a) (hb : Trie.TermKey b ∨ Trie.ExtKey b)
    (h : Trie.hexToCompact a = Trie.hexToCompact b) : a = b := Trie.hexToCompact_injective a b ha hb h

example : Trie.compactToHex (Trie.hexToCompact [1, 2, 3, 16]) = [1, 2, 3, 16] ∧
          Trie.compactToHex (Trie.hexToCompact [1, 2, 16]) = [1, 2, 16] ∧
          Trie.compactToHex (Trie.hexToCompact [7]) = [7] := by decide

/-! ### J4-J6: what the application's per-block commit (deleteEmptyObjects = true) may and may not remove -/

/-- J4: an account nothing has written to since it was persisted - however often it was READ - is
    exactly what it was after `Commit(true)` and reopening: reads never change the committed state -/
theorem untouched_account_survives_commit (d : StateJournal.DB) (persisted : StateJournal.Accounts) (a : Nat)
    (h1 : d.objDirty.contains a = false) (h2 : StateJournal.journalDirty d a = false) :
    (StateJournal.commitDel d persisted).accts a = persisted a := by
  rw [commitDel_accts, h1, h2]
  rfl

/-- J5: a touched account is removed by `Commit(true)` exactly when it is suicided or empty; otherwise
    it is written as the live state shows it -/
theorem touched_account_commit (d : StateJournal.DB) (persisted : StateJournal.Accounts) (a : Nat)
    (x : StateJournal.Acct) (hd : d.objDirty.contains a = true ∨ StateJournal.journalDirty d a = true)
    (hx : d.accts a = some x) :
    (StateJournal.commitDel d persisted).accts a = if x.suicided || x.isEmpty then none else some x := by
  rw [commitDel_accts, if_pos ((Bool.or_eq_true _ _).mpr hd), hx]

/-- J6: the commit leaves no journal, snapshot or dirty mark behind -/
theorem commit_is_clean (d : StateJournal.DB) (persisted : StateJournal.Accounts) :
    (StateJournal.commitDel d persisted).journal = [] ∧ (StateJournal.commitDel d persisted).snaps = [] ∧
    (StateJournal.commitDel d persisted).objDirty = [] := ⟨rfl, rfl, rfl⟩

/-! ### M1-M4: the trie is a finite map -/

open AnnVerif.Trie in
/-- the invariant of every trie the application builds: keys are laid out nibble by nibble, short
    nodes carry non-empty keys and end in a value or a branch, branches have at least two children -/
def TrieInv (t : Trie.Node) : Prop := WF t ∧ Br t

/-- M1: an update (a write, or a delete when the value is empty) keeps the invariant -/
theorem update_keeps_invariant (t : Trie.Node) (key value : Bytes) (h : TrieInv t) :
    TrieInv (Trie.update t key value) :=
  have u := Trie.update_ok h.1 h.2 key value
  ⟨u.wf, u.br⟩

/-- M2: after an update the key reads as the value written (nothing, if it was deleted) -/
theorem lookup_update_same (t : Trie.Node) (key value : Bytes) (h : TrieInv t) :
    Trie.lookup (Trie.update t key value) key = if value.isEmpty then none else some value := by
  have u := Trie.update_ok h.1 h.2 key value
  rw [Trie.lookup_eq_getN u.wf, u.get _ (Trie.tk_keybytesToHex key), if_pos rfl]

/-- M3: every other key reads as before -/
theorem lookup_update_other (t : Trie.Node) (key value q : Bytes) (h : TrieInv t) (hq : q ≠ key) :
    Trie.lookup (Trie.update t key value) q = Trie.lookup t q := by
  have u := Trie.update_ok h.1 h.2 key value
  rw [Trie.lookup_eq_getN u.wf, Trie.lookup_eq_getN h.1, u.get _ (Trie.tk_keybytesToHex q),
    if_neg (fun e => hq (Trie.keybytesToHex_inj e))]

/-- M4 (refinement): for EVERY sequence of writes and deletes, starting from the empty trie, the trie
    holds the invariant and reads, for every key, exactly what the simple map reads -/
theorem trie_refines_map (ws : List (Bytes × Bytes)) :
    TrieInv (build ws) ∧ ∀ q, Trie.lookup (build ws) q = ws.foldl mapUpdate (fun _ => none) q :=
  have r := build_refines ws
  ⟨⟨r.wf, r.br⟩, r.lookup⟩

/-- M5 (history independence): two sequences of writes and deletes - of any lengths, in any order,
    with any overwritten or deleted intermediate values - that describe the same map build the SAME
    trie, node for node -/
theorem trie_is_a_function_of_its_content (ws1 ws2 : List (Bytes × Bytes))
    (h : ∀ q, ws1.foldl mapUpdate (fun _ => none) q = ws2.foldl mapUpdate (fun _ => none) q) :
    build ws1 = build ws2 :=
  (build_refines ws1).unique (funext h ▸ build_refines ws2)

/-- M6: hence the same root hash, whatever the hash function -/
theorem root_is_a_function_of_the_content (H : Bytes → Bytes) (ws1 ws2 : List (Bytes × Bytes))
    (h : ∀ q, ws1.foldl mapUpdate (fun _ => none) q = ws2.foldl mapUpdate (fun _ => none) q) :
    Trie.rootHash H (build ws1) = Trie.rootHash H (build ws2) := by
  rw [trie_is_a_function_of_its_content ws1 ws2 h]

/-- not vacuous: two different histories of the same content (other order, an overwrite, a key that
    is written and deleted again) -/
example :
    let ws1 : List (Bytes × Bytes) := [([0x12, 0x34], [1]), ([0x12, 0x35], [2]), ([0x77], [3])]
    let ws2 : List (Bytes × Bytes) := [([0x77], [9]), ([0x55], [5]), ([0x12, 0x35], [2]), ([0x77], [3]), ([0x55], []), ([0x12, 0x34], [1])]
    build ws1 = build ws2 ∧ (build ws1).isEmpty = false := by
  exact ⟨by rfl, by rfl⟩

theorem built_tries_have_no_empty_value (ws : List (Bytes × Bytes)) : Trie.NoEmpty (build ws) := by
  refine (build_refines ws).noEmpty fun q h => ?_
  rcases map_some_mem ws _ q [] h with h0 | ⟨_, _, _, _, ne⟩
  · cases h0
  · exact ne rfl

/-- M7: for EVERY trie the application can build, every key (present or absent) and every hash
    function with 32-byte output: `VerifyProof` run against the root hash on the proof `Prove`
    returns for the key yields exactly what the trie holds for it - the value, or its absence -
    unless the hash function collides (two different inputs, one output).
    `SmallT`: every node's encoding fits 64-bit sizes (the RLP decoder's domain). -/
theorem merkle_proof_verifies (H : Bytes → Bytes) (Hlen : ∀ x, (H x).length = 32) (ws : List (Bytes × Bytes))
    (q : Bytes) (hne : (build ws).isEmpty = false) (hs : Trie.SmallT H (build ws)) :
    Trie.verify H (Trie.prove H (build ws) (Trie.keybytesToHex q)) ((Trie.keybytesToHex q).length + 1)
      (Trie.rootHash H (build ws)) (Trie.keybytesToHex q) = some (Trie.lookup (build ws) q) ∨ Trie.Coll H := by
  have hw := (build_refines ws).wf
  rw [Trie.lookup_eq_getN hw q]
  exact (Trie.verify_prove H Hlen (build ws) _ hw hne (Trie.tk_keybytesToHex q) hs
    (built_tries_have_no_empty_value ws _ (Trie.tk_keybytesToHex q))).imp_right Trie.CollIn.coll

/-- M8: `SmallT`, the size hypothesis of M7, holds for every trie built from keys of at most 2^30
    bytes and values of at most 2^32 bytes - whatever was written, overwritten and deleted -/
theorem built_tries_are_small (H : Bytes → Bytes) (Hlen : ∀ x, (H x).length = 32) (ws : List (Bytes × Bytes))
    (hk : ∀ w ∈ ws, w.1.length ≤ 2 ^ 30) (hv : ∀ w ∈ ws, w.2.length ≤ 2 ^ 32) :
    Trie.SmallT H (build ws) := by
  refine (build_refines ws).small H Hlen (K := 2 ^ 32) (Nat.le_refl _) (Nat.le_refl _) fun q v h => ?_
  rcases map_some_mem ws _ q v h with h0 | ⟨w, hw, rfl, rfl, _⟩
  · cases h0
  · have := hk w hw
    exact ⟨by omega, hv w hw⟩

/-- M7 with the size hypothesis discharged: for keys of at most 2^30 bytes and values of at most
    2^32 bytes the proof `Prove` returns verifies to exactly what the trie holds, or the hash collides -/
theorem merkle_proof_verifies_bounded (H : Bytes → Bytes) (Hlen : ∀ x, (H x).length = 32) (ws : List (Bytes × Bytes))
    (hk : ∀ w ∈ ws, w.1.length ≤ 2 ^ 30) (hv : ∀ w ∈ ws, w.2.length ≤ 2 ^ 32)
    (q : Bytes) (hne : (build ws).isEmpty = false) :
    Trie.verify H (Trie.prove H (build ws) (Trie.keybytesToHex q)) ((Trie.keybytesToHex q).length + 1)
      (Trie.rootHash H (build ws)) (Trie.keybytesToHex q) = some (Trie.lookup (build ws) q) ∨ Trie.Coll H :=
  merkle_proof_verifies H Hlen ws q hne (built_tries_are_small H Hlen ws hk hv)

/-- M9: THE ROOT COMMITS TO THE CONTENT. Two update sequences (keys <= 2^30 bytes, values <= 2^32
    bytes) whose tries have the same root hash describe the same map - for every key - unless the
    hash function collides. With M6: equal roots <=> equal content, up to collisions -/
theorem equal_roots_equal_content (H : Bytes → Bytes) (Hlen : ∀ x, (H x).length = 32) (ws1 ws2 : List (Bytes × Bytes))
    (hk1 : ∀ w ∈ ws1, w.1.length ≤ 2 ^ 30) (hv1 : ∀ w ∈ ws1, w.2.length ≤ 2 ^ 32)
    (hk2 : ∀ w ∈ ws2, w.1.length ≤ 2 ^ 30) (hv2 : ∀ w ∈ ws2, w.2.length ≤ 2 ^ 32)
    (he : Trie.rootHash H (build ws1) = Trie.rootHash H (build ws2)) :
    (∀ q, ws1.foldl mapUpdate (fun _ => none) q = ws2.foldl mapUpdate (fun _ => none) q) ∨ Trie.Coll H := by
  have r1 := build_refines ws1
  have r2 := build_refines ws2
  rcases Trie.root_commits H Hlen (build ws1) (build ws2) r1.wf r2.wf
      (built_tries_have_no_empty_value ws1) (built_tries_have_no_empty_value ws2)
      (built_tries_are_small H Hlen ws1 hk1 hv1) (built_tries_are_small H Hlen ws2 hk2 hv2) he with h | h
  · left
    intro q
    rw [← r1.lookup q, ← r2.lookup q, h]
  · exact Or.inr h.coll

/-- M10: COMMIT AND REOPEN. The node database a commit writes (the root node and every node stored
    by hash) read from the root hash - fetch by hash, decode, walk through embedded nodes, fetch the
    next hash - returns for EVERY key exactly what the in-memory trie holds, or the hash collides -/
theorem reopen_reproduces_the_content (H : Bytes → Bytes) (Hlen : ∀ x, (H x).length = 32) (ws : List (Bytes × Bytes))
    (hk : ∀ w ∈ ws, w.1.length ≤ 2 ^ 30) (hv : ∀ w ∈ ws, w.2.length ≤ 2 ^ 32)
    (q : Bytes) (hne : (build ws).isEmpty = false) :
    Trie.verify H (Trie.commitNodes H (build ws)) ((Trie.keybytesToHex q).length + 1)
      (Trie.rootHash H (build ws)) (Trie.keybytesToHex q) = some (Trie.lookup (build ws) q) ∨ Trie.Coll H := by
  have hw := (build_refines ws).wf
  rw [Trie.lookup_eq_getN hw q]
  exact (Trie.reopen_reads_content H Hlen (build ws) _ hw hne (Trie.tk_keybytesToHex q)
    (built_tries_are_small H Hlen ws hk hv)
    (built_tries_have_no_empty_value ws _ (Trie.tk_keybytesToHex q))).imp_right Trie.CollIn.coll

/-- not vacuous: a trie with nodes stored by hash (values of 40 and 33 bytes) meets the hypotheses,
    its proofs have several elements, and they verify for a present and for an absent key (a toy
    32-byte "hash" keeps the evaluation small; the theorem is for every hash function) -/
example :
    let toyH : Bytes → Bytes := fun b => (b ++ List.replicate 32 0).take 32
    let ws : List (Bytes × Bytes) := [([0x12, 0x34], List.replicate 40 7), ([0x12, 0x35], [2]), ([0x77], List.replicate 33 9)]
    (build ws).isEmpty = false ∧ Trie.SmallT toyH (build ws) ∧
    (Trie.prove toyH (build ws) (Trie.keybytesToHex [0x12, 0x34])).length = 4 ∧
    Trie.verify toyH (Trie.prove toyH (build ws) (Trie.keybytesToHex [0x12, 0x34])) 6 (Trie.rootHash toyH (build ws))
      (Trie.keybytesToHex [0x12, 0x34]) = some (some (List.replicate 40 7)) ∧
    Trie.verify toyH (Trie.prove toyH (build ws) (Trie.keybytesToHex [0x12, 0x36])) 6 (Trie.rootHash toyH (build ws))
      (Trie.keybytesToHex [0x12, 0x36]) = some none := by
  refine ⟨by decide, Trie.smallTB_sound _ _ (by decide), by decide, by decide, by decide⟩

/-- not vacuous: three writes (two sharing a nibble prefix), one overwrite and one delete -/
example :
    let t := [([0x12, 0x34], [1]), ([0x12, 0x35], [2]), ([0x77], [3]), ([0x12, 0x34], [4]), ([0x77], [])].foldl
      (fun t (w : Bytes × Bytes) => Trie.update t w.1 w.2) Trie.Node.empty
    Trie.lookup t [0x12, 0x34] = some [4] ∧ Trie.lookup t [0x12, 0x35] = some [2] ∧ Trie.lookup t [0x77] = none := by
  decide

end AnnVerif.C11
