/-
  The RLP decoder undoes the encoder: `readKind` reads back what `header` wrote (sizes below 2^64, as
  minimal big-endian bytes), `decodeOne` gives back the item for any fuel that covers its nesting
  (`costOne`), and twice the length of the encoding, which `decode` supplies, covers it.
-/
import AnnVerif.Model.Rlp
import AnnVerif.Lemmas.Logic
namespace AnnVerif.Rlp

theorem beVal_eq_foldl (bs : Bytes) : beVal bs = bs.foldl (fun acc b => acc * 256 + b.toNat) 0 := by
  cases bs <;> rfl

theorem beVal_append (xs : Bytes) (b : UInt8) : beVal (xs ++ [b]) = beVal xs * 256 + b.toNat := by
  rw [beVal_eq_foldl, beVal_eq_foldl]; simp [List.foldl_append]

theorem beMin_zero (f : Nat) : beMin f 0 = [] := by
  cases f <;> rfl

theorem beMin_succ (f : Nat) {n : Nat} (h : n ≠ 0) :
    beMin (f + 1) n = beMin f (n / 256) ++ [UInt8.ofNat (n % 256)] := by
  rw [beMin, if_neg h]

/-- `m` bounds the number of digits of `n`, `f` is the fuel: with `m ≤ f` the recursion ends on `n = 0`, not
    on the fuel, so the bytes are the value, at most `m` of them, and the first is not 0 -/
theorem beMin_spec : ∀ (f m n : Nat), n < 256 ^ m → m ≤ f →
    beVal (beMin f n) = n ∧ (beMin f n).length ≤ m ∧
    (0 < n → ∃ x t, beMin f n = x :: t ∧ x ≠ 0) := by
  intro f
  induction f with
  | zero =>
    intro m n hn hm
    obtain rfl : m = 0 := Nat.le_zero.mp hm
    obtain rfl : n = 0 := Nat.lt_one_iff.mp hn
    exact ⟨rfl, Nat.le_refl _, fun h => absurd h (Nat.lt_irrefl 0)⟩
  | succ k ih =>
    intro m n hn hm
    by_cases h0 : n = 0
    · subst h0
      rw [beMin_zero]
      exact ⟨rfl, Nat.zero_le _, fun h => absurd h (Nat.lt_irrefl 0)⟩
    · obtain ⟨m, rfl⟩ : ∃ m', m = m' + 1 := by
        cases m with
        | zero => exact absurd (Nat.lt_one_iff.mp hn) h0
        | succ m => exact ⟨m, rfl⟩
      have hb : n % 256 < 256 := Nat.mod_lt _ (by decide)
      obtain ⟨h1, h2, h3⟩ := ih m (n / 256) (Nat.div_lt_of_lt_mul (by rw [Nat.mul_comm]; exact hn))
        (Nat.le_of_succ_le_succ hm)
      rw [beMin_succ k h0]
      refine ⟨?_, ?_, fun _ => ?_⟩
      · rw [beVal_append, h1, UInt8.toNat_ofNat_of_lt' hb]
        exact Nat.div_add_mod' n 256
      · rw [List.length_append]
        exact Nat.succ_le_succ h2
      · by_cases hq0 : n / 256 = 0
        · rw [hq0, beMin_zero]
          refine ⟨_, [], rfl, fun h => h0 ?_⟩
          have hz : (UInt8.ofNat (n % 256)).toNat = 0 := congrArg UInt8.toNat h
          rw [UInt8.toNat_ofNat_of_lt' hb] at hz
          omega
        · obtain ⟨x, t, hx, hne⟩ := h3 (Nat.pos_of_ne_zero hq0)
          exact ⟨x, t ++ [UInt8.ofNat (n % 256)], by rw [hx]; rfl, hne⟩

theorem beMinBytes_spec (n : Nat) (h0 : 0 < n) (h : n < 2 ^ 64) :
    beVal (beMinBytes n) = n ∧ 1 ≤ (beMinBytes n).length ∧ (beMinBytes n).length ≤ 8 ∧
    ∃ x t, beMinBytes n = x :: t ∧ x ≠ 0 := by
  obtain ⟨h1, h2, h3⟩ := beMin_spec 9 8 n (by omega) (by omega)
  obtain ⟨x, t, hx, hne⟩ := h3 h0
  exact ⟨h1, by rw [beMinBytes, hx]; simp, h2, x, t, hx, hne⟩

theorem readUint_beMinBytes (len : Nat) (h56 : 56 ≤ len) (h : len < 2 ^ 64) (rest : Bytes) (tl : Err) :
    readUint (beMinBytes len).length (beMinBytes len ++ rest) tl = .ok (len, rest) := by
  obtain ⟨hv, h1, h8, x, t, hx, hne⟩ := beMinBytes_spec len (by omega) h
  unfold readUint
  rw [if_neg (by omega), if_neg (by simp), List.take_left, List.drop_left]
  simp only
  rw [hv, if_neg]
  -- minimal bytes have no leading zero
  rw [hx]
  exact fun h => hne (Option.some.inj h.2)

theorem readKind_header_str (len : Nat) (h : len < 2 ^ 64) (rest : Bytes) (tl : Err) :
    readKind (header 0x80 0xB7 len ++ rest) tl = .ok (.str len, rest) := by
  unfold header
  by_cases h56 : len < 56
  · simp only [h56, if_true, List.cons_append, List.nil_append, readKind,
      UInt8.toNat_ofNat_of_lt' (show 0x80 + len < 256 by omega)]
    rw [if_neg (by omega), if_pos (by omega), Nat.add_sub_cancel_left]
  · obtain ⟨_, hk1, hk8, _⟩ := beMinBytes_spec len (by omega) h
    simp only [h56, if_false, List.cons_append, readKind,
      UInt8.toNat_ofNat_of_lt' (show 0xB7 + (beMinBytes len).length < 256 by omega)]
    rw [if_neg (by omega), if_neg (by omega), if_pos (by omega), Nat.add_sub_cancel_left,
      readUint_beMinBytes len (by omega) h rest tl]
    simp [h56]

theorem readKind_header_list (len : Nat) (h : len < 2 ^ 64) (rest : Bytes) (tl : Err) :
    readKind (header 0xC0 0xF7 len ++ rest) tl = .ok (.list len, rest) := by
  unfold header
  by_cases h56 : len < 56
  · simp only [h56, if_true, List.cons_append, List.nil_append, readKind,
      UInt8.toNat_ofNat_of_lt' (show 0xC0 + len < 256 by omega)]
    rw [if_neg (by omega), if_neg (by omega), if_neg (by omega), if_pos (by omega), Nat.add_sub_cancel_left]
  · obtain ⟨_, hk1, hk8, _⟩ := beMinBytes_spec len (by omega) h
    simp only [h56, if_false, List.cons_append, readKind,
      UInt8.toNat_ofNat_of_lt' (show 0xF7 + (beMinBytes len).length < 256 by omega)]
    rw [if_neg (by omega), if_neg (by omega), if_neg (by omega), if_neg (by omega), Nat.add_sub_cancel_left,
      readUint_beMinBytes len (by omega) h rest tl]
    simp [h56]

theorem beMin_length_le : ∀ (f n : Nat), (beMin f n).length ≤ f
  | 0, _ => by simp [beMin]
  | f + 1, n => by
    rw [beMin]
    split
    · simp
    · have := beMin_length_le f (n / 256)
      simp only [List.length_append, List.length_cons, List.length_nil]; omega

theorem header_length (small large len : Nat) :
    1 ≤ (header small large len).length ∧ (header small large len).length ≤ 10 := by
  unfold header
  split
  · simp
  · have := beMin_length_le 9 len
    simp only [List.length_cons, beMinBytes]; omega

theorem encodeStr_length (b : Bytes) : 1 ≤ (encodeStr b).length ∧ (encodeStr b).length ≤ b.length + 10 := by
  unfold encodeStr
  split
  · split
    · simp
    · have := header_length 0x80 0xB7 1
      simp only [List.length_append, List.length_cons, List.length_nil]
      omega
  · have := header_length 0x80 0xB7 b.length
    simp only [List.length_append]
    omega

theorem encode_length_pos (x : Item) : 1 ≤ (encode x).length := by
  cases x with
  | str b => rw [encode]; exact (encodeStr_length b).1
  | list l =>
    have := header_length 0xC0 0xF7 (encodeList l).length
    rw [encode, List.length_append]; omega

mutual
def costOne : Item → Nat
  | .str _ => 1
  | .list l => 1 + costItems l
def costItems : List Item → Nat
  | [] => 0
  | x :: t => 1 + max (costOne x) (costItems t)
end

mutual
/-- One level of nesting is at least one byte of encoding and takes two units of fuel (`decodeOne`, then
    `decodeItems`): hence the factor 2. The `+ 1` is what the step through `costItems` needs, which charges one
    unit more for an element than the element's own cost. -/
theorem costOne_le : ∀ (x : Item), costOne x + 1 ≤ 2 * (encode x).length
  | .str b => by
    have := encode_length_pos (.str b)
    rw [costOne]; omega
  | .list l => by
    rw [costOne, encode]
    have := costItems_le l
    have := header_length 0xC0 0xF7 (encodeList l).length
    simp only [List.length_append]; omega
theorem costItems_le : ∀ (l : List Item), costItems l ≤ 2 * (encodeList l).length
  | [] => by rw [costItems]; omega
  | x :: t => by
    rw [costItems, encodeList]
    have := costOne_le x
    have := costItems_le t
    simp only [List.length_append]; omega
end

mutual
/-- every payload is shorter than 2^64 bytes (what `uint64` sizes can express) -/
def smallOne : Item → Prop
  | .str b => b.length < 2 ^ 64
  | .list l => (encodeList l).length < 2 ^ 64 ∧ smallItems l
def smallItems : List Item → Prop
  | [] => True
  | x :: t => smallOne x ∧ smallItems t
end

theorem decodeItems_succ (f : Nat) {inp : Bytes} (h : inp ≠ []) :
    decodeItems (f + 1) inp =
      (match decodeOne f inp .elemTooLarge with
       | .error e => .error e
       | .ok (x, rest) =>
         match decodeItems f rest with
         | .error e => .error e
         | .ok xs => .ok (x :: xs)) := by
  rw [decodeItems]
  · rfl
  · exact h

theorem decodeOne_str (b : Bytes) (hb : b.length < 2 ^ 64) (fuel : Nat) (rest : Bytes) (tl : Err) :
    decodeOne (fuel + 1) (encodeStr b ++ rest) tl = .ok (.str b, rest) := by
  unfold encodeStr
  match b, hb with
  | [], _ =>
    simp only [List.length_nil, List.append_nil]
    rw [decodeOne, readKind_header_str 0 (by omega) rest tl]
    rfl
  | [x], _ =>
    simp only
    by_cases hx : x.toNat < 0x80
    · simp only [hx, if_true, List.cons_append, List.nil_append]
      rw [decodeOne]
      simp [readKind, hx]
    · simp only [hx, if_false]
      rw [decodeOne, List.append_assoc, readKind_header_str 1 (by omega) _ tl]
      simp [hx]
  | x :: y :: t, hb =>
    simp only
    rw [decodeOne, List.append_assoc, readKind_header_str _ hb _ tl]
    simp only
    rw [if_neg (by simp), List.take_left, List.drop_left]
    rfl

mutual
theorem decodeOne_encode : ∀ (x : Item) (fuel : Nat) (rest : Bytes) (tl : Err),
    smallOne x → costOne x ≤ fuel → decodeOne fuel (encode x ++ rest) tl = .ok (x, rest)
  | .str b, fuel, rest, tl, hs, hc => by
    rw [costOne] at hc
    rw [smallOne] at hs
    obtain ⟨f, rfl⟩ := exists_succ_of_lt hc
    rw [encode]
    exact decodeOne_str b hs f rest tl
  | .list l, fuel, rest, tl, hs, hc => by
    rw [costOne, Nat.add_comm] at hc
    rw [smallOne] at hs
    obtain ⟨f, rfl⟩ := exists_succ_of_lt hc
    rw [encode, decodeOne, List.append_assoc, readKind_header_list _ hs.1 _ tl]
    simp only
    rw [if_neg (by simp), List.take_left, List.drop_left, decodeItems_encodeList l f hs.2 (by omega)]
theorem decodeItems_encodeList : ∀ (l : List Item) (fuel : Nat),
    smallItems l → costItems l ≤ fuel → decodeItems fuel (encodeList l) = .ok l
  | [], fuel, _, _ => by
    rw [encodeList]
    cases fuel <;> rfl
  | x :: t, fuel, hs, hc => by
    rw [costItems, Nat.add_comm] at hc
    rw [smallItems] at hs
    obtain ⟨f, rfl⟩ := exists_succ_of_lt hc
    rw [encodeList, decodeItems_succ f (List.append_ne_nil_of_left_ne_nil (List.ne_nil_of_length_pos (encode_length_pos x)) _),
      decodeOne_encode x f (encodeList t) .elemTooLarge hs.1 (by omega)]
    simp only
    rw [decodeItems_encodeList t f hs.2 (by omega)]
end

/-- C18 RLP ROUND TRIP: decoding the encoding of any item tree gives that tree back — for every
    nesting depth and every payload size below 2^64. -/
theorem decode_encode (x : Item) (hs : smallOne x) : decode (encode x) = .ok x := by
  unfold decode
  have hc := costOne_le x
  have := decodeOne_encode x (2 * (encode x).length + 2) [] .eof hs (by omega)
  rw [List.append_nil] at this
  rw [this]

theorem encode_inj {x y : Item} (hx : smallOne x) (hy : smallOne y) (h : encode x = encode y) : x = y := by
  have h1 := decode_encode x hx
  rw [h, decode_encode y hy] at h1
  injection h1 with h1
  exact h1.symm

end AnnVerif.Rlp
