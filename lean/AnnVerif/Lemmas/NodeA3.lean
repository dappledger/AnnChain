/-
  The locking rule over the node's history (assumption A3 of the agreement theorem, in the timed
  form of Lemmas/AgreementT.lean), for every run of one node from a fresh state:

    if the node has signed a precommit for block b in round r and LATER signs a prevote for
    something else in a round r' > r of the same height, then its own prevote sets report +2/3
    for something other than b in a round r'' with r < r'' ≤ r'.

  `signed` (ghost) is the list of the node's signed votes in signing order. The invariant `A3Inv`
  carries what is needed: every precommit for a block of the current height is either still
  covered by the lock (locked block = its block, lockedRound ≥ its round) or released (`ReleasedBy`)
  by a polka for something else in a later round the node has entered; the own precommit of the
  current round implies the node is past the precommit step; a lock never names a round ahead of
  the node.
  Reported majorities are never withdrawn (`Move.stable`), rounds never go back (`Le`).
-/
import AnnVerif.Lemmas.NodeJust

namespace AnnVerif.Node

def nonNil (v : VoteSet.Vote) : Prop := v.bid.hash.isEmpty = false

def IsPC (n : Node) (p : VoteSet.Vote) : Prop := p.type = 2 ∧ nonNil p ∧ p.height = n.height

def ReleasedBy (n : Node) (p : VoteSet.Vote) (upTo : Int) : Prop :=
  ∃ r'' bid'', p.round < r'' ∧ r'' ≤ upTo ∧ maj23 (prevotes n r'') = some bid'' ∧ bid''.hash ≠ p.bid.hash

structure A3Inv (n : Node) : Prop where
  /-- no signed vote is ahead of the node -/
  hr : ∀ v ∈ n.signed, v.height ≤ n.height ∧ (v.height = n.height → v.round ≤ n.round)
  /-- an own precommit of the round the node stands in: the node has entered Precommit, so
      `Move.precommit` (whose `Enters` says it has not) signs no second one -/
  ps : ∀ p ∈ n.signed, p.type = 2 → p.height = n.height → p.round = n.round → Step.precommit ≤ n.step
  /-- a lock is not of a round ahead of the node -/
  lr : n.lockedBlock.isSome = true → n.lockedRound ≤ n.round
  /-- every own precommit for a block is covered by the lock (that block, locked in the vote's
      round or later) or was released by a later polka for something else: what `g3` follows from
      when a prevote is signed, since `doPrevote` follows the lock -/
  pl : ∀ p ∈ n.signed, IsPC n p →
        (n.lockedBlock = some p.bid.hash ∧ p.round ≤ n.lockedRound) ∨ ReleasedBy n p n.round
  /-- C04 L10, A3 of the timed agreement theorem; "later" is the position in `signed` -/
  g3 : ∀ (i j : Nat) (_ : i < j) (hj : j < n.signed.length),
        IsPC n (n.signed[i]'(by omega)) → (n.signed[j]).type = 1 → (n.signed[j]).height = n.height →
        (n.signed[i]'(by omega)).round < (n.signed[j]).round →
        (n.signed[j]).bid.hash ≠ (n.signed[i]'(by omega)).bid.hash →
        ReleasedBy n (n.signed[i]'(by omega)) (n.signed[j]).round
  /-- as `ps`, for prevotes -/
  pv : ∀ p ∈ n.signed, p.type = 1 → p.height = n.height → p.round = n.round → Step.prevote ≤ n.step
  /-- C04 L11, A1: no two signed votes share height, round and type (from `ps`, `pv`, `hr`) -/
  uniq : ∀ (i j : Nat) (_ : i < j) (hj : j < n.signed.length),
        ¬ ((n.signed[i]'(by omega)).height = (n.signed[j]).height ∧
           (n.signed[i]'(by omega)).round = (n.signed[j]).round ∧
           (n.signed[i]'(by omega)).type = (n.signed[j]).type)
  /-- `signed` is in (height, round) order: a precommit of an earlier round was signed earlier
      (NetAgreement uses it to bring the two votes of A3 into the order `g3` asks for) -/
  srt : ∀ (i j : Nat) (_ : i < j) (hj : j < n.signed.length),
        (n.signed[i]'(by omega)).height ≤ (n.signed[j]).height ∧
        ((n.signed[i]'(by omega)).height = (n.signed[j]).height → (n.signed[i]'(by omega)).round ≤ (n.signed[j]).round)

theorem ReleasedBy.mono {n n' : Node} {p : VoteSet.Vote} {u u' : Int} (x : ReleasedBy n p u)
    (hu : u ≤ u') (hs : ∀ r b, maj23 (prevotes n r) = some b → maj23 (prevotes n' r) = some b) :
    ReleasedBy n' p u' := by
  obtain ⟨r, b, h1, h2, h3, h4⟩ := x
  exact ⟨r, b, h1, Int.le_trans h2 hu, hs r b h3, h4⟩

/-- what `A3Inv.uniq` excludes of two votes of the history -/
def SameSlot (p v : VoteSet.Vote) : Prop := p.height = v.height ∧ p.round = v.round ∧ p.type = v.type

/-- what `A3Inv.srt` says of an earlier vote `p` and a later vote `v` of the history -/
def InOrder (p v : VoteSet.Vote) : Prop := p.height ≤ v.height ∧ (p.height = v.height → p.round ≤ v.round)

theorem A3Inv.sorted {n : Node} (i : A3Inv n) : n.signed.Pairwise InOrder := pairs_iff.mp i.srt

theorem A3Inv.one_per_slot {n : Node} (i : A3Inv n) {a b : VoteSet.Vote} (ha : a ∈ n.signed) (hb : b ∈ n.signed)
    (e : SameSlot a b) : a = b := by
  rcases pairwise_mem (pairs_iff (P := fun p v => ¬ SameSlot p v) |>.mp i.uniq) ha hb with h | h | h
  · exact h
  · exact absurd e h
  · exact absurd ⟨e.1.symm, e.2.1.symm, e.2.2.symm⟩ h

/-- what `A3Inv.advance` asks of a vote `v` signed in the step from `n` to `n'`: it is for the round
    the node then stands in, signed not before the node has entered the vote's step (`ps`, `pv`), in
    no slot used before (`fresh`), covered by the lock if it is a precommit for a block (`pl`), and
    a prevote against an earlier precommit only after that one was released (`g3`) -/
structure NewVote (n n' : Node) (v : VoteSet.Vote) : Prop where
  height : v.height = n.height
  round : v.round = n'.round
  ps : v.type = 2 → Step.precommit ≤ n'.step
  pv : v.type = 1 → Step.prevote ≤ n'.step
  pl : IsPC n v → (n'.lockedBlock = some v.bid.hash ∧ v.round ≤ n'.lockedRound) ∨ ReleasedBy n' v n'.round
  g3 : v.type = 1 → ∀ p ∈ n.signed, IsPC n p → p.round < v.round → v.bid.hash ≠ p.bid.hash → ReleasedBy n' p v.round
  fresh : ∀ p ∈ n.signed, ¬ SameSlot p v

/-- the general step inside one height: the node does not go back, reported majorities stay, at
    most one vote is signed (`NewVote`); the lock may change as long as every precommit for a block
    stays covered or released -/
theorem A3Inv.advance {n n' : Node} (i : A3Inv n) (extra : List VoteSet.Vote) (hlen : extra.length ≤ 1)
    (hs : n'.signed = n.signed ++ extra) (hh : n'.height = n.height) (le : Le n n')
    (stab : ∀ r b, maj23 (prevotes n r) = some b → maj23 (prevotes n' r) = some b)
    (hlr : n'.lockedBlock.isSome = true → n'.lockedRound ≤ n'.round)
    (hpl : ∀ p ∈ n.signed, IsPC n p →
      (n'.lockedBlock = some p.bid.hash ∧ p.round ≤ n'.lockedRound) ∨ ReleasedBy n' p n'.round)
    (hx : ∀ v ∈ extra, NewVote n n' v) : A3Inv n' := by
  have hround := le.round_le hh
  have pc : ∀ {p}, IsPC n' p → IsPC n p := fun h => ⟨h.1, h.2.1, h.2.2.trans hh⟩
  -- an old vote of the round the node stands in afterwards: the node was in that round already
  have here : ∀ p ∈ n.signed, p.height = n'.height → p.round = n'.round →
      p.height = n.height ∧ p.round = n.round ∧ n.step.toNat ≤ n'.step.toNat := fun p hp e1 e2 => by
    have := (i.hr p hp).2 (e1.trans hh)
    have e : n'.round = n.round := by omega
    exact ⟨e1.trans hh, e2.trans e, le.step_le hh e⟩
  refine ⟨?_, ?_, hlr, fun p hp hpc => ?_, ?_, ?_, ?_, ?_⟩
  · intro v hv
    rw [hh]
    rcases List.mem_append.mp (hs ▸ hv) with hv | hv
    · exact ⟨(i.hr v hv).1, fun e => Int.le_trans ((i.hr v hv).2 e) hround⟩
    · exact ⟨Int.le_of_eq (hx v hv).height, fun _ => Int.le_of_eq (hx v hv).round⟩
  · intro p hp ht e1 e2
    rcases List.mem_append.mp (hs ▸ hp) with hp | hp
    · obtain ⟨a, b, c⟩ := here p hp e1 e2
      exact Nat.le_trans (i.ps p hp ht a b) c
    · exact (hx p hp).ps ht
  · exact (List.mem_append.mp (hs ▸ hp)).elim (fun hp => hpl p hp (pc hpc)) fun hp => (hx p hp).pl (pc hpc)
  · exact pairs_append hs (pairwise_of_length_le hlen)
      (P := fun p v => IsPC n' p → v.type = 1 → v.height = n'.height → p.round < v.round →
        v.bid.hash ≠ p.bid.hash → ReleasedBy n' p v.round)
      (fun a b hab hb h1 h2 h3 h4 h5 => (i.g3 a b hab hb (pc h1) h2 (h3.trans hh) h4 h5).mono (Int.le_refl _) stab)
      (fun v hv p hp h1 h2 _ => (hx v hv).g3 h2 p hp (pc h1))
  · intro p hp ht e1 e2
    rcases List.mem_append.mp (hs ▸ hp) with hp | hp
    · obtain ⟨a, b, c⟩ := here p hp e1 e2
      exact Nat.le_trans (i.pv p hp ht a b) c
    · exact (hx p hp).pv ht
  · exact pairs_append (P := fun p v => ¬ SameSlot p v) hs (pairwise_of_length_le hlen) i.uniq fun v hv => (hx v hv).fresh
  · refine pairs_append (P := InOrder) hs (pairwise_of_length_le hlen) i.srt fun v hv p hp => ?_
    unfold InOrder
    rw [(hx v hv).height]
    exact ⟨(i.hr p hp).1, fun e => (hx v hv).round ▸ Int.le_trans ((i.hr p hp).2 e) hround⟩

/-- a step that signs nothing: what has to be shown again is that the lock, as it is afterwards,
    covers the precommits -/
theorem A3Inv.relock {n n' : Node} (i : A3Inv n) (l : Le n n') (hh : n'.height = n.height) (hs : n'.signed = n.signed)
    (stab : ∀ r b, maj23 (prevotes n r) = some b → maj23 (prevotes n' r) = some b)
    (hlr : n'.lockedBlock.isSome = true → n'.lockedRound ≤ n'.round)
    (hpl : ∀ p ∈ n.signed, IsPC n p →
      (n'.lockedBlock = some p.bid.hash ∧ p.round ≤ n'.lockedRound) ∨ ReleasedBy n' p n'.round) : A3Inv n' :=
  i.advance [] (Nat.zero_le _) (hs.trans (List.append_nil _).symm) hh l stab hlr hpl (List.forall_mem_nil _)

theorem A3Inv.keep {n n' : Node} (i : A3Inv n) (l : Le n n') (hh : n'.height = n.height)
    (hlb : n'.lockedBlock = n.lockedBlock) (hlr : n'.lockedRound = n.lockedRound) (hs : n'.signed = n.signed)
    (stab : ∀ r b, maj23 (prevotes n r) = some b → maj23 (prevotes n' r) = some b) : A3Inv n' := by
  have hround := l.round_le hh
  refine i.relock l hh hs stab ?_ ?_
  · rw [hlb, hlr]
    exact fun hl => Int.le_trans (i.lr hl) hround
  · rw [hlb, hlr]
    exact fun p hp hpc => (i.pl p hp hpc).imp_right fun x => x.mono hround stab

/-- the height moved on: nothing of the old height is the subject any more -/
theorem A3Inv.next {n n' : Node} (i : A3Inv n) (hh : n.height < n'.height) (hs : n'.signed = n.signed)
    (hl : n'.lockedBlock = none) : A3Inv n' := by
  have old : ∀ p ∈ n'.signed, p.height ≠ n'.height := fun p hp e => by
    have := (i.hr p (hs ▸ hp)).1
    omega
  have hs' := hs.trans (List.append_nil _).symm
  refine ⟨fun v hv => ?_, fun p hp _ e => absurd e (old p hp), fun h => (by rw [hl] at h; cases h),
    fun p hp hpc => absurd hpc.2.2 (old p hp), fun a b _ _ h1 => absurd h1.2.2 (old _ (List.getElem_mem _)),
    fun p hp _ e => absurd e (old p hp),
    pairs_append (P := fun p v => ¬ SameSlot p v) hs' .nil i.uniq (List.forall_mem_nil _),
    pairs_append (P := InOrder) hs' .nil i.srt (List.forall_mem_nil _)⟩
  have := (i.hr v (hs ▸ hv)).1
  exact ⟨by omega, fun e => absurd e (old v hv)⟩

/-- until the node has entered Precommit of the round it stands in, its precommits for a block are
    of earlier rounds: a polka in this round comes after them -/
theorem earlier_round (n : Node) (i : A3Inv n) (p : VoteSet.Vote) (hp : p ∈ n.signed) (hpc : IsPC n p)
    (hstep : ¬ Step.precommit ≤ n.step) : p.round < n.round := by
  have h1 := (i.hr p hp).2 hpc.2.2
  by_cases e : p.round = n.round
  · exact absurd (i.ps p hp hpc.1 hpc.2.2 e) hstep
  · omega

theorem signed_emit (n : Node) (e : Emit) : (emit n e).signed = n.signed := rfl

variable {off : VoteSet.Hist}

theorem A3Inv.move {a b : Node} (m : Move True off a b) (i : A3Inv a) : A3Inv b := by
  have stab := m.stable
  have le := Le.move m
  cases m with
  | prevote h r e ht bid hb s x hx =>
    -- sign a prevote that follows the lock, then stand in (r, Prevote)
    cases ht trivial
    have hnst : ¬ Step.prevote ≤ a.step := Nat.not_le_of_lt (e.step rfl)
    refine i.advance x hx.length_le rfl rfl le (stab rfl) i.lr i.pl fun v hv => ?_
    obtain ⟨hvh, hvr, hvt, hvb, _⟩ := hx.mem hv
    have t1 : v.type ≠ 2 := fun ht => absurd (hvt.symm.trans ht) (by decide)
    refine { height := hvh, round := hvr, ps := fun ht => absurd ht t1, pv := fun _ => Nat.le_refl _,
             pl := fun hpc => absurd hpc.1 t1, g3 := ?_, fresh := ?_ }
    · intro _ p hp hpc hlt hne
      rcases i.pl p hp hpc with h | h
      · exact absurd (by rw [hvb, hb _ h.1, bidOf_hash]) hne
      · rw [hvr]
        exact h
    · exact fun p hp hk => hnst (i.pv p hp (hk.2.2.trans hvt) (hk.1.trans hvh) (hk.2.1.trans hvr))
  | precommit h r e ht bid hb s x hx =>
    -- sign nil, or the block the node is locked on in this round; then stand in (r, Precommit)
    cases ht trivial
    have hnst : ¬ Step.precommit ≤ a.step := Nat.not_le_of_lt (e.step rfl)
    refine i.advance x hx.length_le rfl rfl le (stab rfl) i.lr i.pl fun v hv => ?_
    obtain ⟨hvh, hvr, hvt, hvb, _⟩ := hx.mem hv
    have t2 : v.type ≠ 1 := fun ht => absurd (hvt.symm.trans ht) (by decide)
    refine { height := hvh, round := hvr, ps := fun _ => Nat.le_refl _, pv := fun ht => absurd ht t2,
             pl := fun hpc => ?_, g3 := fun ht => absurd ht t2, fresh := ?_ }
    · have hn := hpc.2.1
      unfold nonNil at hn
      rw [hvb] at hn ⊢
      exact Or.inl ⟨(hb hn).2.1, Int.le_of_eq (hvr.trans (hb hn).2.2.symm)⟩
    · exact fun p hp hk => hnst (i.ps p hp (hk.2.2.trans hvt) (hk.1.trans hvh) (hk.2.1.trans hvr))
  | lock h r e ht bid hm lb hlb =>
    -- an earlier precommit for the block stays covered by the lock; one for another block is released
    -- by this round's polka
    cases ht trivial
    have hnst : ¬ Step.precommit ≤ a.step := Nat.not_le_of_lt (e.step rfl)
    refine i.relock le rfl rfl (stab rfl) (fun _ => Int.le_refl _) fun p hp hpc => ?_
    by_cases hsame : bid.hash = p.bid.hash
    · exact Or.inl ⟨hsame ▸ hlb, (i.hr p hp).2 hpc.2.2⟩
    · exact Or.inr ⟨a.round, bid, earlier_round a i p hp hpc hnst, Int.le_refl _, hm, hsame⟩
  | unlock vr bid hm hne hvr hlt =>
    -- every precommit the lock covered is released by the polka in `vr`
    refine i.relock le rfl rfl (stab rfl) nofun fun p hp hpc => ?_
    rcases i.pl p hp hpc with x | x
    · refine Or.inr ⟨vr, bid, ?_, hvr trivial, hm, ?_⟩
      · rcases hlt with hlt | ⟨h1, h2⟩
        · exact Int.lt_of_le_of_lt x.2 hlt
        · have hvr := Int.le_antisymm h1 (hvr trivial)
          rw [← hvr]
          exact earlier_round a i p hp hpc (Nat.not_le_of_lt (h2 hvr))
      · intro e
        rw [x.1, e] at hne
        have hnn := hpc.2.1
        unfold nonNil at hnn
        simp [hashesTo, hnn] at hne
    · exact Or.inr x
  | finalize => exact i.next (Int.lt_succ _) rfl rfl
  | _ => exact i.keep le rfl rfl rfl rfl (stab rfl)

theorem a3_run (ins : List In) : ∀ n : Node, A3Inv n → RunOK n ins → A3Inv (ins.foldl stepIn n) :=
  run_keeps_timed A3Inv.move ins

theorem A3Inv.of_fresh {n : Node} (hs : n.signed = []) (hl : n.lockedBlock = none) : A3Inv n := by
  have none : ∀ {P : VoteSet.Vote → Prop}, ∀ v ∈ n.signed, P v := fun v hv => by rw [hs] at hv; cases hv
  have empty : ∀ j, ¬ j < n.signed.length := fun j hj => by rw [hs] at hj; cases hj
  exact ⟨none, none, fun h => (by rw [hl] at h; cases h), none, fun _ j _ hj => absurd hj (empty j), none,
    fun _ j _ hj => absurd hj (empty j), fun _ j _ hj => absurd hj (empty j)⟩

theorem init_a3 (cfg : Cfg) (height : Int) (vals : ValSet.ValSet) (me : Option Nat) (skip : Bool) :
    A3Inv (init cfg height vals me skip) := .of_fresh rfl rfl

end AnnVerif.Node
