/-
  The canonical sign-bytes of a vote are INJECTIVE: for one chain id, two votes with the same
  sign-bytes have the same height, round, type and block id (hash, parts total, parts hash). Proved by
  a reader that takes the text apart from the left and gives the vote back (`readVote`): fixed pieces
  are skipped by their length, a hex string ends at the first character that is not a hex digit, a decimal
  at the first that is neither a digit nor '-'.
-/
import AnnVerif.Model.SignBytes
namespace AnnVerif.SignBytes
open AnnVerif.VoteSet

def readRun {α : Type} (P : Char → Bool) (val : List Char → α) (s : List Char) : α × List Char :=
  (val (s.takeWhile P), s.dropWhile P)

theorem readRun_append {α : Type} (P : Char → Bool) (val : List Char → α) (a s : List Char) (ha : ∀ x ∈ a, P x = true)
    (hs : s.head?.all (fun c => !P c) = true) : readRun P val (a ++ s) = (val a, s) := by
  rw [readRun, List.takeWhile_append_of_pos ha, List.dropWhile_append_of_pos ha]
  cases s with
  | nil => rw [List.takeWhile_nil, List.dropWhile_nil, List.append_nil]
  | cons c r =>
    have hc : ¬ P c = true := by simpa using hs
    rw [List.takeWhile_cons_of_neg hc, List.dropWhile_cons_of_neg hc, List.append_nil]

def isHex (c : Char) : Bool := (c.isDigit || (c.val ≥ 65 && c.val ≤ 70))

theorem hexDigit_isHex : ∀ n, n < 16 → isHex (hexDigit n) = true := by decide

theorem hexOf_isHex (b : Bytes) : ∀ x ∈ hexOf b, isHex x = true := by
  induction b with
  | nil => exact List.forall_mem_nil _
  | cons y t ih =>
    exact List.forall_mem_cons.2 ⟨hexDigit_isHex _ (Nat.div_lt_of_lt_mul y.toNat_lt),
      List.forall_mem_cons.2 ⟨hexDigit_isHex _ (Nat.mod_lt _ (by decide)), ih⟩⟩

def hexVal (c : Char) : Nat := if c.toNat < 58 then c.toNat - 48 else c.toNat - 55

def unhex : List Char → Bytes
  | c :: d :: t => UInt8.ofNat (hexVal c * 16 + hexVal d) :: unhex t
  | _ => []

theorem hexVal_hexDigit : ∀ n, n < 16 → hexVal (hexDigit n) = n := by decide

theorem unhex_hexOf (b : Bytes) : unhex (hexOf b) = b := by
  induction b with
  | nil => rfl
  | cons y t ih =>
    rw [hexOf, unhex, ih, hexVal_hexDigit _ (Nat.div_lt_of_lt_mul y.toNat_lt), hexVal_hexDigit _ (Nat.mod_lt _ (by decide)),
      Nat.div_add_mod' y.toNat 16, UInt8.ofNat_toNat]

def readHex : List Char → Bytes × List Char := readRun isHex unhex

theorem readHex_hexOf (a : Bytes) (s : List Char) (hs : s.head?.all (fun c => !isHex c) = true) :
    readHex (hexOf a ++ s) = (a, s) := by
  rw [readHex, readRun_append _ _ _ _ (hexOf_isHex a) hs, unhex_hexOf]

def isDec (c : Char) : Bool := c.isDigit || c == '-'

theorem digit_isDigit : ∀ d, d < 10 → (Char.ofNat (48 + d)).isDigit = true := by decide
theorem digit_val : ∀ d, d < 10 → (Char.ofNat (48 + d)).toNat - 48 = d := by decide

theorem natDigits_digits (n : Nat) : ∀ x ∈ natDigits n, x.isDigit = true := by
  fun_induction natDigits n with
  | case1 n h => exact List.forall_mem_singleton.2 (digit_isDigit n h)
  | case2 n h ih =>
    exact List.forall_mem_append.2 ⟨ih, List.forall_mem_singleton.2 (digit_isDigit _ (Nat.mod_lt _ (by decide)))⟩

def digitsVal (l : List Char) : Nat := l.foldl (fun a c => a * 10 + (c.toNat - 48)) 0

theorem digitsVal_natDigits (n : Nat) : digitsVal (natDigits n) = n := by
  fun_induction natDigits n with
  | case1 n h => exact (Nat.zero_add _).trans (digit_val n h)
  | case2 n h ih =>
    rw [digitsVal, List.foldl_append, ← digitsVal, ih]
    exact (congrArg _ (digit_val (n % 10) (Nat.mod_lt _ (by decide)))).trans (Nat.div_add_mod' n 10)

theorem decOf_isDec (i : Int) : ∀ x ∈ decOf i, isDec x = true := by
  have dig : ∀ n, ∀ x ∈ natDigits n, isDec x = true := fun n x hx => by
    unfold isDec; rw [natDigits_digits n x hx]; rfl
  unfold decOf
  split
  · exact List.forall_mem_cons.2 ⟨by decide, dig _⟩
  · exact dig _

def decVal (l : List Char) : Int := if l.head? = some '-' then -(digitsVal l.tail : Int) else digitsVal l

theorem decVal_decOf (i : Int) : decVal (decOf i) = i := by
  unfold decOf decVal
  split
  · rw [List.head?_cons, if_pos rfl, List.tail_cons, digitsVal_natDigits]; omega
  · rw [if_neg, digitsVal_natDigits]
    · omega
    · intro h
      have := natDigits_digits i.toNat '-' (List.mem_of_mem_head? h)
      revert this; decide

def readDec : List Char → Int × List Char := readRun isDec decVal

theorem readDec_decOf (i : Int) (s : List Char) (hs : s.head?.all (fun c => !isDec c) = true) :
    readDec (decOf i ++ s) = (i, s) := by
  rw [readDec, readRun_append _ _ _ _ (decOf_isDec i) hs, decVal_decOf]

/-- reads `{"hash":"HEX","total":N}` -/
def readParts (s : List Char) : Int × Bytes × List Char :=
  let (p, s) := readHex (s.drop tHashOpen.length)
  let (t, s) := readDec (s.drop tTotal.length)
  (t, p, s.tail)

theorem readParts_partsJson (t : Int) (p : Bytes) (r : List Char) : readParts (partsJson t p ++ r) = (t, p, r) := by
  unfold partsJson readParts
  simp only [List.append_assoc]
  rw [List.drop_left, readHex_hexOf p _ rfl]
  dsimp only
  rw [List.drop_left, readDec_decOf t _ rfl]
  rfl

/-- `"parts":` -/
def tParts : List Char := ['"', 'p', 'a', 'r', 't', 's', '"', ':']

/-- what follows the hash field, if any: the closing brace, or (after `sep`) the parts header and the brace -/
def bidTail (b : BlockID) (sep r : List Char) : List Char :=
  if b.phash.isEmpty && b.total == 0 then '}' :: r
  else sep ++ (tParts ++ (partsJson b.total b.phash ++ '}' :: r))

theorem bidJson_append (b : BlockID) (r : List Char) :
    bidJson b ++ r = if b.hash.isEmpty then '{' :: bidTail b [] r
      else tHashOpen ++ (hexOf b.hash ++ '"' :: bidTail b [','] r) := by
  unfold bidJson bidTail
  dsimp only
  split <;> split <;>
    simp only [tPartsOpen, tThenParts, tParts, List.append_assoc, List.cons_append, List.nil_append]

/-- reads what `bidTail` writes: a closing brace means no parts header, that is an empty parts hash and total 0;
    otherwise the parts header starts at the next opening brace -/
def readTail (h : Bytes) (s : List Char) : BlockID × List Char :=
  if s.head? = some '}' then (⟨h, 0, []⟩, s.tail)
  else
    let (t, p, s) := readParts (s.dropWhile (· != '{'))
    (⟨h, t, p⟩, s.tail)

theorem readTail_bidTail (h : Bytes) (b : BlockID) (sep r : List Char) (hsep : sep = [] ∨ sep = [',']) :
    readTail h (bidTail b sep r) = (⟨h, b.total, b.phash⟩, r) := by
  unfold bidTail
  by_cases po : (b.phash.isEmpty && b.total == 0) = true
  · rw [if_pos po]
    rw [Bool.and_eq_true, beq_iff_eq, List.isEmpty_iff] at po
    rw [po.1, po.2]
    rfl
  · rw [if_neg po]
    -- neither `sep` nor `"parts":` holds a brace, and the parts header starts with the opening one
    have skip : ∀ x, readTail h (sep ++ (tParts ++ (partsJson b.total b.phash ++ x))) =
        let (t, p, s) := readParts (partsJson b.total b.phash ++ x); (⟨h, t, p⟩, s.tail) := by
      rcases hsep with rfl | rfl <;> exact fun _ => rfl
    rw [skip, readParts_partsJson]
    rfl

/-- reads a block id followed by `,`; the third character tells whether there is a hash field: `{},` `{"p` `{"h` -/
def readBid (s : List Char) : BlockID × List Char :=
  if s[2]? = some 'h' then
    let (h, s) := readHex (s.drop tHashOpen.length)
    readTail h s.tail
  else readTail [] s.tail

theorem readBid_bidJson (b : BlockID) (r : List Char) : readBid (bidJson b ++ ',' :: r) = (b, ',' :: r) := by
  rw [readBid, bidJson_append]
  by_cases e : b.hash.isEmpty = true
  · have third : ('{' :: bidTail b [] (',' :: r))[2]? ≠ some 'h' := by
      unfold bidTail
      split <;> exact fun h => nomatch h
    rw [if_pos e, if_neg third, List.tail_cons, readTail_bidTail _ _ _ _ (.inl rfl), ← List.isEmpty_iff.1 e]
  · have third : ∀ x, (tHashOpen ++ x)[2]? = some 'h' := fun _ => rfl
    rw [if_neg e, if_pos (third _), List.drop_left, readHex_hexOf _ _ rfl]
    exact readTail_bidTail _ _ _ _ (.inr rfl)

/-- `k` is the length of the chain id, which the reader skips unread: so it undoes `voteJson` for each
    chain id, and injectivity follows for two votes under the same one -/
def readVote (k : Nat) (s : List Char) : Int × Int × Int × BlockID :=
  let (b, s) := readBid (((s.drop chainOpen.length).drop k).drop voteOpen.length)
  let (h, s) := readDec (s.drop tHeight.length)
  let (r, s) := readDec (s.drop tRound.length)
  (h, r, (readDec (s.drop tType.length)).1, b)

theorem readVote_voteJson (chain : List Char) (h r : Int) (t : Nat) (b : BlockID) :
    readVote chain.length (voteJson chain h r t b) = (h, r, (t : Int), b) := by
  -- `readBid_bidJson` wants to see the comma that follows the block id: it is the first character of `tHeight`
  have comma : ∀ x, tHeight ++ x = ',' :: (tHeight.tail ++ x) := fun _ => rfl
  unfold voteJson readVote
  simp only [List.append_assoc]
  rw [List.drop_left, List.drop_left, List.drop_left, comma, readBid_bidJson, ← comma]
  dsimp only
  rw [List.drop_left, readDec_decOf h _ rfl]
  dsimp only
  rw [List.drop_left, readDec_decOf r _ rfl]
  dsimp only
  rw [List.drop_left, readDec_decOf t _ rfl]

theorem voteJson_injective (chain : List Char) (h h' r r' : Int) (t t' : Nat) (b b' : BlockID)
    (e : voteJson chain h r t b = voteJson chain h' r' t' b') : h = h' ∧ r = r' ∧ t = t' ∧ b = b' := by
  have e := congrArg (readVote chain.length) e
  rw [readVote_voteJson, readVote_voteJson] at e
  simp only [Prod.mk.injEq, Int.natCast_inj] at e
  exact e

/-- non-vacuity: two votes that differ only in the parts header of their block id -/
example : voteJson ['c'] 1 0 2 ⟨[1], 1, [2]⟩ ≠ voteJson ['c'] 1 0 2 ⟨[1], 2, [2]⟩ :=
  fun e => by have := (voteJson_injective _ _ _ _ _ _ _ _ _ e).2.2.2; cases this

end AnnVerif.SignBytes
