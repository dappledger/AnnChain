/-
  The hand-over machine (Model/Handoff.lean) action by action: when each action is enabled and what
  it does; the lock discipline `WF` is kept by every action; under it the repaired reactor gets the
  pool lock.
-/
import AnnVerif.Model.Handoff
namespace AnnVerif.Handoff

variable {cfg : Cfg} {st st' : St}

theorem step_rSend : step cfg st .rSend = some st' ↔
    (st.r = .sending ∧ st.full = false) ∧ { st with r := .waiting } = st' := by
  simp only [step, Option.ite_none_right_eq_some, Option.some.injEq]

theorem step_rTakeSignal : step cfg st .rTakeSignal = some st' ↔
    (st.r = .waiting ∧ st.signal = true) ∧ { st with r := .holding, signal := false } = st' := by
  simp only [step, Option.ite_none_right_eq_some, Option.some.injEq]

theorem step_vArrive : step cfg st .vArrive = some st' ↔
    st.v = .idle ∧ { st with v := .wantLock } = st' := by
  simp only [step, Option.ite_none_right_eq_some, Option.some.injEq]

theorem step_vLock : step cfg st .vLock = some st' ↔
    (st.v = .wantLock ∧ st.lock = .free) ∧ { st with v := .inAddBlock, lock := .v } = st' := by
  simp only [step, Option.ite_none_right_eq_some, Option.some.injEq]

theorem step_sDrain : step cfg st .sDrain = some st' ↔
    (st.s = .draining ∧ st.full = true) ∧ { st with full := false } = st' := by
  simp only [step, Option.ite_none_right_eq_some, Option.some.injEq]

theorem step_sTick : step cfg st .sTick = some st' ↔
    st.s = .draining ∧ { st with s := .wantLock } = st' := by
  simp only [step, Option.ite_none_right_eq_some, Option.some.injEq]

theorem step_sLock : step cfg st .sLock = some st' ↔
    (st.s = .wantLock ∧ st.lock = .free) ∧ { st with s := .looking, lock := .s } = st' := by
  simp only [step, Option.ite_none_right_eq_some, Option.some.injEq]

theorem step_sUnlock : step cfg st .sUnlock = some st' ↔
    st.s = .looking ∧ { st with s := .draining, lock := .free } = st' := by
  simp only [step, Option.ite_none_right_eq_some, Option.some.injEq]

/-- whichever way `setBlock` goes, a hand-over that returns started inside AddBlock, leaves the
    requester with a block and gives the lock back -/
theorem step_vHandoff (h : step cfg st .vHandoff = some st') :
    st.v = .inAddBlock ∧ st'.v = .done ∧ st'.lock = .free ∧ st'.blockSet = true ∧ st'.s = st.s := by
  simp only [step] at h
  by_cases hv : st.v ≠ .inAddBlock
  · rw [if_pos hv] at h
    cases h
  rw [if_neg hv] at h
  have hv := Classical.not_not.mp hv
  by_cases hb : st.blockSet = true
  · rw [if_pos hb] at h
    cases h
    exact ⟨hv, rfl, rfl, hb, rfl⟩
  rw [if_neg hb] at h
  by_cases hn : cfg.nonBlocking = true
  · rw [if_pos hn] at h
    cases h
    exact ⟨hv, rfl, rfl, rfl, rfl⟩
  rw [if_neg hn] at h
  by_cases hr : st.r = .waiting
  · rw [if_pos hr] at h
    cases h
    exact ⟨hv, rfl, rfl, rfl, rfl⟩
  · rw [if_neg hr] at h
    cases h

/-- the non-blocking send never waits -/
theorem step_vHandoff_repaired (hv : st.v = .inAddBlock) : ∃ st', step repaired st .vHandoff = some st' := by
  simp only [step, hv, repaired]
  cases st.blockSet
  · exact ⟨_, rfl⟩
  · exact ⟨_, rfl⟩

/-- in each case `WF` of the new state is `WF` of the old one read with the guard of the action -/
theorem WF.step (h : WF st) (hs : step cfg st a = some st') : WF st' := by
  unfold WF at h ⊢
  cases a with
  | rSend | rTakeSignal | sDrain =>
    simp only [step_rSend, step_rTakeSignal, step_sDrain] at hs
    obtain ⟨_, rfl⟩ := hs
    exact h
  | vArrive | sTick =>
    simp only [step_vArrive, step_sTick] at hs
    obtain ⟨g, rfl⟩ := hs
    simpa [g] using h
  | vLock | sLock =>
    simp only [step_vLock, step_sLock] at hs
    obtain ⟨⟨g, gl⟩, rfl⟩ := hs
    simpa [g, gl] using h
  | vHandoff =>
    obtain ⟨g, g1, g2, _, g3⟩ := step_vHandoff hs
    have gl := h.1.mpr g
    simpa [g, g1, g2, g3, gl] using h
  | sUnlock =>
    obtain ⟨g, rfl⟩ := step_sUnlock.mp hs
    have gl := h.2.mpr g
    simpa [g, gl] using h

theorem mem_allActs (a : Act) : a ∈ allActs := by
  cases a <;> decide

theorem stuck_false_of_step (h : step cfg st a = some st') : stuck cfg st = false := by
  rw [Bool.eq_false_iff]
  intro hall
  have := List.all_eq_true.mp hall a (mem_allActs a)
  rw [h] at this
  cases this

theorem runActs_cons {st1 : St} (h : step cfg st a = some st1) (t : List Act) :
    runActs cfg st (a :: t) = runActs cfg st1 t := by
  simp only [runActs, h, Option.bind_some]

/-- the reactor wants the pool lock: either it is free, or the receiving goroutine holds it and (repaired)
    gives it back in one step -/
theorem lock_within_two (h : WF st) (hs : st.s = .wantLock) :
    ∃ acts : List Act, acts.length ≤ 2 ∧ ∃ st', runActs repaired st acts = some st' ∧ st'.s = .looking := by
  have take : ∀ st1 : St, st1.s = .wantLock → st1.lock = .free →
      ∃ st', step repaired st1 .sLock = some st' ∧ st'.s = .looking :=
    fun st1 h1 h2 => ⟨_, step_sLock.mpr ⟨⟨h1, h2⟩, rfl⟩, rfl⟩
  cases hl : st.lock with
  | free =>
    obtain ⟨st', h1, h2⟩ := take st hs hl
    exact ⟨[.sLock], by decide, st', runActs_cons h1 [], h2⟩
  | s =>
    rw [h.2.mp hl] at hs
    cases hs
  | v =>
    obtain ⟨st1, h1⟩ := step_vHandoff_repaired (h.1.mp hl)
    obtain ⟨_, _, g2, _, g3⟩ := step_vHandoff h1
    obtain ⟨st', h2, h3⟩ := take st1 (g3.trans hs) g2
    exact ⟨[.vHandoff, .sLock], by decide, st', (runActs_cons h1 _).trans (runActs_cons h2 []), h3⟩

end AnnVerif.Handoff
