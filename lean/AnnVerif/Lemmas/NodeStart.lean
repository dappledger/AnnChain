/-
  A fresh node satisfies every run invariant (`start_good` … `start_full`), WHATEVER the validity
  oracle says: `validTab` (which blocks `ValidateBlock` accepts) is an input of the model, not
  something the node computes; `Node.init` starts with an empty table (only the node's own blocks
  become valid), `start` with any table.
-/
import AnnVerif.Lemmas.NodePast
import AnnVerif.Lemmas.Assembled

namespace AnnVerif.Node

/-- a fresh node with an arbitrary validity oracle, and the timeout every node schedules when it is
    started (`scheduleRound0`: NewHeight of round 0) -/
def start (cfg : Cfg) (height : Int) (vals : ValSet.ValSet) (me : Option Nat) (skip : Bool)
    (tab : List (Name × Int × Bool)) : Node :=
  { init cfg height vals me skip with validTab := tab, out := [.timeout height 0 .newHeight] }

theorem start_good (height : Int) (vals : ValSet.ValSet) (me : Option Nat) (skip : Bool)
    (tab : List (Name × Int × Bool)) : Good (start repaired height vals me skip tab) :=
  ⟨rfl, rfl, nofun, by simp [start, init, savePanic]⟩

theorem start_qj (cfg : Cfg) (height : Int) (vals : ValSet.ValSet) (me : Option Nat) (skip : Bool)
    (tab : List (Name × Int × Bool)) : QJ (start cfg height vals me skip tab) := List.forall_mem_nil _

theorem start_sched (cfg : Cfg) (height : Int) (vals : ValSet.ValSet) (me : Option Nat) (skip : Bool)
    (tab : List (Name × Int × Bool)) : Sched (start cfg height vals me skip tab) := by
  intro e he
  simp only [start, List.mem_singleton] at he
  subst he
  exact Or.inr ⟨rfl, Int.le_refl _⟩

theorem start_lj (cfg : Cfg) (height : Int) (vals : ValSet.ValSet) (me : Option Nat) (skip : Bool)
    (tab : List (Name × Int × Bool)) : LJ (start cfg height vals me skip tab) := LJ.of_none rfl

theorem start_a3 (cfg : Cfg) (height : Int) (vals : ValSet.ValSet) (me : Option Nat) (skip : Bool)
    (tab : List (Name × Int × Bool)) : A3Inv (start cfg height vals me skip tab) := .of_fresh rfl rfl

theorem start_full (V : List VoteSet.Validator) (pos : ∀ val ∈ V, 0 ≤ val.power) (cfg : Cfg) (height : Int)
    (vals : ValSet.ValSet) (hV : vsVals vals = V) (i : Nat) (skip : Bool) (tab : List (Name × Int × Bool)) :
    Full V (some i) (start cfg height vals (some i) skip tab) [] where
  qj := start_qj cfg height vals (some i) skip tab
  a3 := start_a3 cfg height vals (some i) skip tab
  past := { ok := List.forall_mem_nil _, cover := List.forall_mem_nil _ }
  vsi :=
    { pos := pos, vals := hV, vals0 := hV, old := List.forall_mem_nil _
      cur := setsOK_iff.mpr fun rv hm => by
        simp only [start, init, List.mem_singleton] at hm
        subst hm
        exact setsOK_fresh [] height _ ⟨0, by simp [newRoundVotes, hV]⟩ }
  qs := fun v ok hm => by simp [start, init] at hm
  sm := List.forall_mem_nil _
  hme := rfl
  cm := fun h b hm => by simp [start, init] at hm

theorem run_invariants (height : Int) (vals : ValSet.ValSet) (me : Option Nat) (skip : Bool)
    (tab : List (Name × Int × Bool)) (ins : List In)
    (hs : Scheduled (start repaired height vals me skip tab) ins) :
    let n := ins.foldl stepIn (start repaired height vals me skip tab)
    Good n ∧ QJ n ∧ LJ n ∧ A3Inv n ∧ Sched n ∧ Le (start repaired height vals me skip tab) n := by
  have ok := runOK_of_scheduled ins _ (start_sched repaired height vals me skip tab) hs
  exact ⟨run_good ins _ (start_good height vals me skip tab),
         run_qj ins _ (start_qj repaired height vals me skip tab) ok,
         lj_run ins _ (start_lj repaired height vals me skip tab),
         a3_run ins _ (start_a3 repaired height vals me skip tab) ok,
         sched_run ins _ (start_sched repaired height vals me skip tab),
         le_run ins _⟩

/-! ### a run in which everything happens (non-vacuity): node 1 of 4 receives the proposal for "b"
    (valid by the oracle) and its parts, prevotes it, sees two more prevotes, precommits and locks;
    round 0 times out, round 1 starts and the node prevotes its lock again -/

def v4s : ValSet.ValSet := ValSet.newValSet ValSet.repaired
  [⟨[1], 1, 0⟩, ⟨[2], 1, 0⟩, ⟨[3], 1, 0⟩, ⟨[4], 1, 0⟩]

def happyIns : List In :=
  [ .timeout 1 0 .newHeight,
    .msg (.proposal ⟨1, 0, [0x62], -1, []⟩ 0 false) "p0",
    .msg (.parts 1 0 [0x62]) "p0",
    .own,
    .msg (.vote ⟨0, [1], 1, 0, 1, bidOf [0x62], 1⟩ true) "p0",
    .msg (.vote ⟨2, [3], 1, 0, 1, bidOf [0x62], 2⟩ true) "p2",
    .own,
    .msg (.vote ⟨0, [1], 1, 0, 2, bidOf [], 3⟩ true) "p0",
    .msg (.vote ⟨2, [3], 1, 0, 2, bidOf [], 4⟩ true) "p2",
    .timeout 1 0 .precommitWait,
    .timeout 1 1 .propose ]

def happy : Node := happyIns.foldl stepIn (start repaired 1 v4s (some 1) false [([0x62], 1, true)])

def scheduledB : Node → List In → Bool
  | _, [] => true
  | n, i :: rest =>
    (match i with | .timeout h r s => decide (Emit.timeout h r s ∈ n.out) | _ => true) && scheduledB (stepIn n i) rest

theorem scheduled_of_B (ins : List In) : ∀ n : Node, scheduledB n ins = true → Scheduled n ins := by
  induction ins with
  | nil => intro _ _; trivial
  | cons i rest ih =>
    intro n h
    simp only [scheduledB, Bool.and_eq_true] at h
    refine ⟨?_, ih _ h.2⟩
    cases i with
    | timeout hh r s => simpa using h.1
    | _ => trivial

example : Scheduled (start repaired 1 v4s (some 1) false [([0x62], 1, true)]) happyIns :=
  scheduled_of_B _ _ (by decide)

example : happy.signed.map (fun v => (v.type, v.round, v.bid.hash)) =
    [(1, 0, [0x62]), (2, 0, [0x62]), (1, 1, [0x62])] ∧ happy.lockedBlock = some [0x62] ∧ happy.round = 1 := by
  decide

end AnnVerif.Node
