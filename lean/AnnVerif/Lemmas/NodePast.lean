/-
  What a node knew when it LEFT a height.

  The run invariants QJ (L8) and A3Inv (L10, L11) speak about the votes of the height the node is in,
  relative to the vote sets of that height; `finalizeCommit` throws those vote sets away. Votes can be
  signed in the very step that ends the height (the precommit that completes +2/3 arrives, the node
  signs its own precommit and commits), so the end-of-step state no longer says why such a vote was
  justified. The ghost field `Node.past` keeps the vote sets of every finished height as they were
  when `finalizeCommit` moved on; `PastInv` says that QJ's and A3Inv's statements about the votes of
  a finished height hold for ever relative to that frozen snapshot. It is kept by every move: no
  move but `Move.finalize` signs for another height than the current one (`Move.signs`) or touches
  `past`, and `Move.finalize` freezes exactly what QJ and A3Inv say at that moment (`Full.freeze`).
  `Full` bundles the run invariants a network of nodes needs (`Full.move`, `full_stepIn`).
-/
import AnnVerif.Lemmas.NodeA3
namespace AnnVerif.Node

def prevotesOf (rs : List RoundVotes) (r : Int) : Option VoteSet.VoteSet := (rs.find? (·.round = r)).map (·.prevotes)
def precommitsOf (rs : List RoundVotes) (r : Int) : Option VoteSet.VoteSet := (rs.find? (·.round = r)).map (·.precommits)

theorem prevotes_eq_of (n : Node) (r : Int) : prevotes n r = prevotesOf n.rounds r := rfl

/-- L8 and L10 for the votes of height `e.1`, relative to the vote sets `e.2` -/
structure PastOK (signed : List VoteSet.Vote) (e : Int × List RoundVotes) : Prop where
  just : ∀ v ∈ signed, v.height = e.1 → v.type = 2 → nonNil v → maj23 (prevotesOf e.2 v.round) = some v.bid
  lock : ∀ (i j : Nat) (_ : i < j) (hj : j < signed.length),
    (signed[i]'(by omega)).type = 2 → nonNil (signed[i]'(by omega)) → (signed[i]'(by omega)).height = e.1 →
    (signed[j]).type = 1 → (signed[j]).height = e.1 →
    (signed[i]'(by omega)).round < (signed[j]).round → (signed[j]).bid.hash ≠ (signed[i]'(by omega)).bid.hash →
    ∃ r'' bid'', (signed[i]'(by omega)).round < r'' ∧ r'' ≤ (signed[j]).round ∧
      maj23 (prevotesOf e.2 r'') = some bid'' ∧ bid''.hash ≠ (signed[i]'(by omega)).bid.hash

structure PastInv (n : Node) : Prop where
  ok : ∀ e ∈ n.past, e.1 < n.height ∧ PastOK n.signed e
  cover : ∀ w ∈ n.signed, w.height < n.height → ∃ e ∈ n.past, e.1 = w.height

/-- `PastOK.lock` for an earlier vote `p` and a later vote `v` -/
def LockRule (e : Int × List RoundVotes) (p v : VoteSet.Vote) : Prop :=
  p.type = 2 → nonNil p → p.height = e.1 → v.type = 1 → v.height = e.1 → p.round < v.round → v.bid.hash ≠ p.bid.hash →
    ∃ r'' bid'', p.round < r'' ∧ r'' ≤ v.round ∧ maj23 (prevotesOf e.2 r'') = some bid'' ∧ bid''.hash ≠ p.bid.hash

theorem PastOK.lockRule {signed : List VoteSet.Vote} {e : Int × List RoundVotes} (p : PastOK signed e) :
    signed.Pairwise (LockRule e) := pairs_iff.mp p.lock

theorem PastOK.append {signed extra : List VoteSet.Vote} {e : Int × List RoundVotes} (p : PastOK signed e)
    (hx : ∀ m ∈ extra, m.height ≠ e.1) : PastOK (signed ++ extra) e := by
  have later : ∀ v ∈ extra, ∀ q, LockRule e q v := fun v hv _ _ _ _ _ h5 => absurd h5 (hx v hv)
  refine ⟨fun v hv hh => ?_, pairs_append (P := LockRule e) rfl ?_ p.lock fun v hv q _ => later v hv q⟩
  · exact (List.mem_append.mp hv).elim (fun hv => p.just v hv hh) fun hv => absurd hh (hx v hv)
  · exact List.pairwise_of_forall_mem_list fun q _ v hv => later v hv q

theorem PastInv.same {n n' : Node} {extra : List VoteSet.Vote} (p : PastInv n) (hh : n'.height = n.height)
    (hp : n'.past = n.past) (hs : n'.signed = n.signed ++ extra) (hx : ∀ m ∈ extra, m.height = n.height) :
    PastInv n' := by
  refine ⟨?_, ?_⟩
  · intro e he
    rw [hp] at he
    obtain ⟨hlt, ok⟩ := p.ok e he
    refine ⟨by rw [hh]; exact hlt, ?_⟩
    rw [hs]
    exact ok.append (fun m hm => by rw [hx m hm]; omega)
  · intro w hw hlt
    rw [hp]
    rw [hh] at hlt
    rw [hs] at hw
    rcases List.mem_append.mp hw with hw | hw
    · exact p.cover w hw hlt
    · have := hx w hw; omega

/-! ### what the vote sets hold: every stored vote was offered to this node with a verifying signature -/

/-- the vote sets of a round as `newRoundVotes` makes them -/
def Fresh (V : List VoteSet.Validator) (h : Int) (rv : RoundVotes) : Prop :=
  ∃ r, rv = ⟨r, VoteSet.new h r 1 V, VoteSet.new h r 2 V⟩

/-- the vote sets `rs` of height `h` over the validators `V`: each satisfies the vote-set invariant
    (C15) relative to the history `hist` of votes offered to the node -/
def SetsOK (V : List VoteSet.Validator) (hist : VoteSet.Hist) (h : Int) (rs : List RoundVotes) : Prop :=
  ∀ rv ∈ rs, VoteSet.Inv VoteSet.repaired hist rv.prevotes ∧ VoteSet.Inv VoteSet.repaired hist rv.precommits ∧
    VoteSet.SameParams (VoteSet.new h rv.round 1 V) rv.prevotes ∧ VoteSet.SameParams (VoteSet.new h rv.round 2 V) rv.precommits ∧
    (∀ b, rv.prevotes.maj23 = some b → ∃ v, (v, true) ∈ hist ∧ v.bid = b) ∧
    (∀ b, rv.precommits.maj23 = some b → ∃ v, (v, true) ∈ hist ∧ v.bid = b)

/-- one vote set of round `r` and type `t` of height `h`: what `SetsOK` says of each of the two sets
    of a round -/
def SetOK (V : List VoteSet.Validator) (hist : VoteSet.Hist) (h r : Int) (t : Nat) (vs : VoteSet.VoteSet) : Prop :=
  VoteSet.Inv VoteSet.repaired hist vs ∧ VoteSet.SameParams (VoteSet.new h r t V) vs ∧ VoteSet.MajOffered hist vs

theorem setsOK_iff {V : List VoteSet.Validator} {hist : VoteSet.Hist} {h : Int} {rs : List RoundVotes} :
    SetsOK V hist h rs ↔ ∀ rv ∈ rs, SetOK V hist h rv.round 1 rv.prevotes ∧ SetOK V hist h rv.round 2 rv.precommits :=
  forall₂_congr fun _ _ => ⟨fun ⟨a, b, c, d, e, f⟩ => ⟨⟨a, c, e⟩, b, d, f⟩, fun ⟨⟨a, c, e⟩, b, d, f⟩ => ⟨a, b, c, d, e, f⟩⟩

variable {V : List VoteSet.Validator} {hist hist' : VoteSet.Hist} {h r : Int} {t : Nat} {vs : VoteSet.VoteSet}

theorem SetOK.subset (hs : ∀ x ∈ hist, x ∈ hist') (s : SetOK V hist h r t vs) : SetOK V hist' h r t vs :=
  ⟨s.1.subset hs, s.2.1, fun b hb => (s.2.2 b hb).imp fun _ hv => ⟨hs _ hv.1, hv.2⟩⟩

theorem SetOK.new : SetOK V hist h r t (VoteSet.new h r t V) :=
  ⟨(VoteSet.inv_new VoteSet.repaired h r t V).subset (fun _ hx => absurd hx List.not_mem_nil),
    VoteSet.SameParams.refl _, fun _ hb => by cases hb⟩

theorem SetOK.pos (pos : ∀ val ∈ V, 0 ≤ val.power) (s : SetOK V hist h r t vs) : ∀ val ∈ vs.vals, 0 ≤ val.power :=
  s.2.1.vals ▸ pos

theorem SetOK.addVote (pos : ∀ val ∈ V, 0 ≤ val.power) {v : VoteSet.Vote} {ok : Bool} (ho : (v, ok) ∈ hist)
    (s : SetOK V hist h r t vs) : SetOK V hist h r t (VoteSet.addVote VoteSet.repaired vs v ok).1 := by
  have sub : ∀ x ∈ hist ++ [(v, ok)], x ∈ hist := fun x hx =>
    (List.mem_append.mp hx).elim id fun h => List.mem_singleton.mp h ▸ ho
  have a := VoteSet.addVote_inv (cfg := VoteSet.repaired) v ok (s.pos pos) s.1
  exact SetOK.subset sub ⟨a.1, s.2.1.trans a.2, VoteSet.addVote_majOffered _ v ok s.2.2⟩

theorem SetOK.peerMaj (pos : ∀ val ∈ V, 0 ≤ val.power) (peer : String) (bid : VoteSet.BlockID)
    (s : SetOK V hist h r t vs) : SetOK V hist h r t (VoteSet.setPeerMaj23 VoteSet.repaired vs peer bid) :=
  have a := VoteSet.setPeerMaj23_inv (cfg := VoteSet.repaired) peer bid (s.pos pos) s.1
  ⟨a.1, s.2.1.trans a.2, VoteSet.setPeerMaj23_majOffered _ peer bid s.2.2⟩

theorem SetsOK.mono {rs : List RoundVotes} (x : VoteSet.Hist) (s : SetsOK V hist h rs) : SetsOK V (hist ++ x) h rs :=
  setsOK_iff.mpr fun rv hm => (setsOK_iff.mp s rv hm).imp (.subset fun _ => List.mem_append_left _)
    (.subset fun _ => List.mem_append_left _)

theorem setsOK_fresh (hist : VoteSet.Hist) (h : Int) (rv : RoundVotes)
    (f : Fresh V h rv) : SetOK V hist h rv.round 1 rv.prevotes ∧ SetOK V hist h rv.round 2 rv.precommits := by
  obtain ⟨r, rfl⟩ := f
  exact ⟨.new, .new⟩

/-- every vote set the node holds, of its height or frozen, satisfies C15's invariant relative to the
    votes offered to THIS node (`hist`), over validators `V` that stay the same from height to height
    (the proposer rotation changes accums only: `vsVals`) -/
structure VSI (V : List VoteSet.Validator) (n : Node) (hist : VoteSet.Hist) : Prop where
  pos : ∀ val ∈ V, 0 ≤ val.power
  vals : vsVals n.vals = V
  vals0 : vsVals n.vals0 = V
  cur : SetsOK V hist n.height n.rounds
  old : ∀ e ∈ n.past, SetsOK V hist e.1 e.2

theorem VSI.mono {n : Node} (x : VoteSet.Hist) (s : VSI V n hist) :
    VSI V n (hist ++ x) :=
  ⟨s.pos, s.vals, s.vals0, s.cur.mono x, fun e he => (s.old e he).mono x⟩

/-- a vote in the node's own queue is one it has signed, and goes to the vote sets as verified: an
    `In.own` input needs no `Auth` (NetAgreement, `offered_was_signed`) -/
def QS (n : Node) : Prop := ∀ v ok, Msg.vote v ok ∈ n.queue → v ∈ n.signed ∧ ok = true

/-- what the network theorem needs of ONE node: `n` runs validator `me0` over the validators `V`, and
    `hist` is the (ghost) list of the votes offered to it so far -/
structure Full (V : List VoteSet.Validator) (me0 : Option Nat) (n : Node) (hist : VoteSet.Hist) : Prop where
  qj : QJ n
  a3 : A3Inv n
  past : PastInv n
  vsi : VSI V n hist
  qs : QS n
  /-- signed votes carry the index of the validator the node runs … -/
  sm : ∀ w ∈ n.signed, ∃ i : Nat, n.me = some i ∧ w.idx = (i : Int)
  /-- … which is the one it was started with -/
  hme : n.me = me0
  /-- a commit was emitted with the +2/3 precommits of one round in the vote sets frozen at that moment -/
  cm : ∀ h b, Emit.commit h b ∈ n.out → ∃ e ∈ n.past, e.1 = h ∧ ∃ cr bid, maj23 (precommitsOf e.2 cr) = some bid ∧ bid.hash = b

variable {me0 : Option Nat}

theorem Full.mono {n : Node} (x : VoteSet.Hist) (f : Full V me0 n hist) : Full V me0 n (hist ++ x) :=
  ⟨f.qj, f.a3, f.past, f.vsi.mono x, f.qs, f.sm, f.hme, f.cm⟩

theorem Full.freeze {n : Node} (f : Full V me0 n hist) : PastOK n.signed (n.height, n.rounds) :=
  ⟨fun v hv hh ht hn => (f.qj v hv).2 ht hh hn, fun i j hij hj h1 h2 h3 => f.a3.g3 i j hij hj ⟨h1, h2, h3⟩⟩

/-- the votes of any height the node has signed for, with the vote sets of that height - the
    node's own if it is still in it, the frozen ones otherwise: L8 and L10 hold relative to them,
    and they satisfy the vote-set invariant -/
theorem Full.at_height {n : Node} (f : Full V me0 n hist) {w : VoteSet.Vote} (hw : w ∈ n.signed) :
    ∃ rs, SetsOK V hist w.height rs ∧ PastOK n.signed (w.height, rs) := by
  by_cases hcur : w.height = n.height
  · exact ⟨n.rounds, hcur ▸ f.vsi.cur, hcur ▸ f.freeze⟩
  · have hle := (f.a3.hr w hw).1
    obtain ⟨e, he, h1⟩ := f.past.cover w hw (by omega)
    exact ⟨e.2, h1 ▸ f.vsi.old e he, h1 ▸ (f.past.ok e he).2⟩

theorem PastInv.commit {n n' : Node} (f : Full V me0 n hist) (hh : n'.height = n.height + 1)
    (hp : n'.past = n.past ++ [(n.height, n.rounds)]) (hs : n'.signed = n.signed) : PastInv n' := by
  refine ⟨?_, ?_⟩
  · intro e he
    rw [hp] at he
    rw [hs, hh]
    rcases List.mem_append.mp he with he | he
    · obtain ⟨a, b⟩ := f.past.ok e he
      exact ⟨by omega, b⟩
    · cases List.mem_singleton.mp he
      exact ⟨Int.lt_succ _, f.freeze⟩
  · intro w hw hlt
    rw [hs] at hw
    rw [hh] at hlt
    rw [hp]
    by_cases hc : w.height < n.height
    · obtain ⟨e, he, h1⟩ := f.past.cover w hw hc
      exact ⟨e, List.mem_append_left _ he, h1⟩
    · have := (f.a3.hr w hw).1
      exact ⟨(n.height, n.rounds), List.mem_append_right _ (by simp), by show n.height = w.height; omega⟩

variable {timed : Prop} {off : VoteSet.Hist}

theorem PastInv.move {a b : Node} (m : Move True off a b) (f : Full V me0 a hist) : PastInv b := by
  obtain ⟨x, hs, hx⟩ := m.signs
  cases m with
  | finalize => exact PastInv.commit f rfl rfl rfl
  | _ => exact f.past.same rfl rfl hs fun v hv => (hx v hv).2.1

/-- a commit is emitted only by `Move.finalize`, which freezes the vote sets it was emitted on -/
theorem Move.commits {a b : Node} (m : Move timed off a b) (h : Int) (blk : Name) (hm : Emit.commit h blk ∈ b.out) :
    (Emit.commit h blk ∈ a.out ∧ ∀ e ∈ a.past, e ∈ b.past) ∨
    ∃ e ∈ b.past, e.1 = h ∧ ∃ cr bid, maj23 (precommitsOf e.2 cr) = some bid ∧ bid.hash = blk := by
  have one : ∀ (l : List Emit) (ev : Emit), (∀ h b, ev ≠ .commit h b) → Emit.commit h blk ∈ l ++ [ev] → Emit.commit h blk ∈ l :=
    fun _ ev hev hm => (List.mem_append.mp hm).elim id fun x => absurd (List.mem_singleton.mp x).symm (hev h blk)
  cases m with
  | panic | saveIncomplete | propose => exact Or.inl ⟨one _ _ (fun _ _ => Emit.noConfusion) hm, fun _ h => h⟩
  | wait _ _ _ _ _ hev =>
    refine Or.inl ⟨one _ _ ?_ hm, fun _ h => h⟩
    rcases hev with rfl | ⟨_, rfl, _⟩ <;> exact fun _ _ => Emit.noConfusion
  | finalize bid hmaj =>
    rcases List.mem_append.mp (one _ _ (fun _ _ => Emit.noConfusion) hm) with hm | hm
    · exact Or.inl ⟨hm, fun _ h => List.mem_append_left _ h⟩
    · cases List.mem_singleton.mp hm
      exact Or.inr ⟨(a.height, a.rounds), List.mem_append_right _ (List.mem_singleton.mpr rfl), rfl, a.commitRound, bid,
        hmaj, rfl⟩
  | _ => exact Or.inl ⟨hm, fun _ h => h⟩

theorem VSI.move {a b : Node} (m : Move timed off a b) (ho : ∀ x ∈ off, x ∈ hist) (s : VSI V a hist) :
    VSI V b hist := by
  -- the vote sets `rv` of one round are replaced by `rv'`
  have upd : ∀ (R : Int) (rv rv' : RoundVotes), getRound a R = some rv → rv'.round = rv.round →
      (SetOK V hist a.height rv.round 1 rv.prevotes ∧ SetOK V hist a.height rv.round 2 rv.precommits →
        SetOK V hist a.height rv.round 1 rv'.prevotes ∧ SetOK V hist a.height rv.round 2 rv'.precommits) →
      VSI V { a with rounds := a.rounds.map fun x => if x.round = R then rv' else x } hist := by
    intro R rv rv' hrv hr h
    refine ⟨s.pos, s.vals, s.vals0, setsOK_iff.mpr fun x hx => ?_, s.old⟩
    obtain ⟨y, hy, rfl⟩ := List.mem_map.mp hx
    split
    · exact hr ▸ h (setsOK_iff.mp s.cur rv (getRound_mem hrv))
    · exact setsOK_iff.mp s.cur y hy
  cases m with
  | newRound _ _ _ _ hv => exact ⟨s.pos, hv.trans s.vals, s.vals0, s.cur, s.old⟩
  | addRounds extra hx =>
    refine ⟨s.pos, s.vals, s.vals0, setsOK_iff.mpr fun rv hm => ?_, s.old⟩
    rcases List.mem_append.mp hm with hm | hm
    · exact setsOK_iff.mp s.cur rv hm
    · obtain ⟨q, rfl⟩ := hx rv hm
      exact setsOK_fresh hist _ _ ⟨q, by rw [newRoundVotes, s.vals]⟩
  | finalize _ _ nv hnv =>
    refine ⟨s.pos, hnv.trans s.vals0, hnv.trans s.vals0, setsOK_iff.mpr fun rv hm => ?_, fun e he => ?_⟩
    · cases List.mem_singleton.mp hm
      exact setsOK_fresh hist _ _ ⟨0, by rw [hnv, s.vals0]⟩
    · rcases List.mem_append.mp he with he | he
      · exact s.old e he
      · cases List.mem_singleton.mp he
        exact s.cur
  | vote v ok hov rv hrv =>
    refine upd v.round rv _ hrv (by split <;> rfl) fun ⟨p, c⟩ => ?_
    split
    · exact ⟨p.addVote s.pos (ho _ hov), c⟩
    · exact ⟨p, c.addVote s.pos (ho _ hov)⟩
  | peerMaj round type peer bid rv hrv =>
    refine upd round rv _ hrv (by split <;> rfl) fun ⟨p, c⟩ => ?_
    split
    · exact ⟨p.peerMaj s.pos peer bid, c⟩
    · exact ⟨p, c.peerMaj s.pos peer bid⟩
  | _ => exact ⟨s.pos, s.vals, s.vals0, s.cur, s.old⟩

theorem Full.move {a b : Node} (m : Move True off a b) (ho : ∀ x ∈ off, x ∈ hist) (f : Full V me0 a hist) :
    Full V me0 b hist := by
  obtain ⟨x, hs, hx⟩ := m.signs
  refine ⟨f.qj.ext (Ext.move m), f.a3.move m, PastInv.move m f, f.vsi.move m ho, fun v ok hm => ?_, fun w hw => ?_,
    m.me.trans f.hme, fun h blk hm => ?_⟩
  · rcases m.queued v ok hm with hm | hm
    · exact ⟨hs ▸ List.mem_append_left _ (f.qs v ok hm).1, (f.qs v ok hm).2⟩
    · exact hm
  · rw [m.me]
    rcases List.mem_append.mp (hs ▸ hw) with hw | hw
    · exact f.sm w hw
    · exact (hx w hw).2.2
  · rcases m.commits h blk hm with ⟨hm, sub⟩ | hm
    · obtain ⟨e, he, x⟩ := f.cm h blk hm
      exact ⟨e, sub e he, x⟩
    · exact hm

theorem full_stepIn (n : Node) (inp : In) (f : Full V me0 n hist) (hw : WellTimed n inp) :
    Full V me0 (stepIn n inp) (hist ++ offered n inp) :=
  (moves_stepIn n inp (fun _ => hw) fun _ h => h).preserves
    (fun _ _ m => Full.move m fun _ h => List.mem_append_right _ h) (f.mono _)

end AnnVerif.Node
