/-
  The structural invariant of the pool model in every variant (`Inv`): both account maps hold, per account,
  queues strictly ascending in the nonce with that account as sender, within the limit the pool was made
  with (C19 Q1, Q2). One lemma per operation, each an application of that operation's rule in PoolOps.
-/
import AnnVerif.Lemmas.PoolOps
namespace AnnVerif.Pool

/-- what `addWaiting` leaves alone: everything but `waiting` and the lookup cache. `PCons`, which reads
    `pending` and `nonces`, crosses `addWaiting` by this alone (`Frame.pcons`). -/
structure Frame (p p' : Pool) : Prop where
  pending : p'.pending = p.pending
  pl : p'.pendingLimit = p.pendingLimit
  wl : p'.waitingLimit = p.waitingLimit
  nonces : p'.nonces = p.nonces
  ext : p'.ext = p.ext

/-- what promotion leaves alone: `Frame` without `pending` -/
structure Frame2 (p p' : Pool) : Prop where
  pl : p'.pendingLimit = p.pendingLimit
  wl : p'.waitingLimit = p.waitingLimit
  nonces : p'.nonces = p.nonces
  ext : p'.ext = p.ext

structure QInv (m : AccMap) (limit : Nat) : Prop where
  sorted : ∀ a, Sorted (m a)
  owner : ∀ a t, t ∈ m a → t.sender = a
  bound : mCount m ≤ limit
  supp : ∀ a, a ∉ accounts → m a = []

theorem QInv.empty (limit : Nat) : QInv (fun _ => []) limit :=
  ⟨fun _ => List.Pairwise.nil, fun _ _ h => (nomatch h), Nat.zero_le _, fun _ _ => rfl⟩

/-- the hypothesis on the length lets the new queue be longer by what the map is below its limit -/
theorem QInv.set {m : AccMap} {limit a : Nat} {q : Queue} (h : QInv m limit) (ha : a ∈ accounts) (hs : Sorted q)
    (ho : ∀ x ∈ q, x.sender = a) (hc : mCount m + q.length ≤ limit + (m a).length) : QInv (mSet m a q) limit := by
  refine ⟨forall_mSet hs h.sorted, forall_mSet (R := fun b q => ∀ t ∈ q, t.sender = b) ho h.owner, ?_,
    forall_mSet (R := fun b q => b ∉ accounts → q = []) (fun hb => absurd ha hb) h.supp⟩
  have := mCount_mSet m a q ha
  omega

theorem QInv.shrink {m : AccMap} {limit a : Nat} {q : Queue} (h : QInv m limit) (ha : a ∈ accounts)
    (hq : q.Sublist (m a)) : QInv (mSet m a q) limit :=
  h.set ha ((h.sorted a).sublist hq) (fun x hx => h.owner a x (hq.subset hx))
    (by have := hq.length_le; have := h.bound; omega)

theorem QInv.filter {m : AccMap} {limit : Nat} (h : QInv m limit) (f : Tx → Bool) :
    QInv (fun a => (m a).filter f) limit :=
  ⟨fun a => (h.sorted a).filter f, fun a t ht => h.owner a t (List.mem_filter.1 ht).1,
   Nat.le_trans (mCount_mono m _ fun _ => List.length_filter_le _ _) h.bound,
   fun a ha => by rw [h.supp a ha]; rfl⟩

structure Inv (pl wl : Nat) (p : Pool) : Prop where
  pend : QInv p.pending pl
  wait : QInv p.waiting wl
  pl : p.pendingLimit = pl
  wl : p.waitingLimit = wl

variable {pl wl : Nat}

theorem Inv.setAll {p : Pool} (h : Inv pl wl p) (all' : List Nat) : Inv pl wl { p with all := all' } :=
  ⟨h.pend, h.wait, h.pl, h.wl⟩

theorem addWaiting_frame (cfg : Cfg) (p : Pool) (t : Tx) : Frame p (addWaiting cfg p t).1 :=
  addWaiting_cases cfg p t (fun _ _ _ => ⟨rfl, rfl, rfl, rfl, rfl⟩) fun _ _ _ _ _ => ⟨rfl, rfl, rfl, rfl, rfl⟩

theorem addWaiting_inv (cfg : Cfg) (p : Pool) (t : Tx) (h : Inv pl wl p) (ha : t.sender ∈ accounts) :
    Inv pl wl (addWaiting cfg p t).1 := by
  refine addWaiting_cases cfg p t (fun q _ hsub => ⟨h.pend, h.wait.shrink ha hsub, h.pl, h.wl⟩)
    fun w _ hsub hn hc => ⟨h.pend, ?_, h.pl, h.wl⟩
  refine h.wait.set ha (qInsert_sorted w t ((h.wait.sorted _).sublist hsub) hn) (fun x hx => ?_) ?_
  · rcases (mem_qInsert w t x).1 hx with rfl | hx
    · rfl
    · exact h.wait.owner _ x (hsub.subset hx)
  · have := hsub.length_le
    have := h.wait.bound
    have := h.wl
    rw [qInsert_length]
    omega

theorem promoteOne_inv (cfg : Cfg) (p : Pool) (a : Nat) (h : Inv pl wl p) (ha : a ∈ accounts) :
    Inv pl wl (promoteOne cfg p a) := by
  refine promoteOne_cases cfg p a h fun stay ready _ hstay hready hlen _ =>
    ⟨?_, h.wait.shrink ha hstay, h.pl, h.wl⟩
  -- what joins the pending queue comes from the waiting queue, under nonces that are not pending yet
  have hf : (ready.filter fun t => !qHas (p.pending a) t.nonce).Sublist ready := List.filter_sublist
  have hadd := hf.trans hready
  refine h.pend.set ha (foldl_qInsert_sorted _ _ (h.pend.sorted a) (fun t ht => ?_)
    (sorted_distinct _ ((h.wait.sorted a).sublist hadd))) (fun x hx => ?_) ?_
  · simpa using (List.mem_filter.1 ht).2
  · rcases (mem_foldl_qInsert _ _ _).1 hx with h1 | h1
    · exact h.pend.owner a x h1
    · exact h.wait.owner a x (hadd.subset h1)
  · have := hf.length_le
    have := h.pl
    have := h.pend.bound
    rw [foldl_qInsert_length]
    omega

theorem submit_inv (cfg : Cfg) (p : Pool) (t : Tx) (h : Inv pl wl p) (ha : t.sender ∈ accounts) :
    Inv pl wl (submit cfg p t).1 :=
  submit_preserves (fun _ all' hq => hq.setAll all') (fun q hq => promoteOne_inv cfg q _ hq ha)
    (addWaiting_inv cfg p t h ha) h

theorem demoteOne_inv (cfg : Cfg) (p : Pool) (a : Nat) (h : Inv pl wl p) (ha : a ∈ accounts) :
    Inv pl wl (demoteOne cfg p a) := by
  obtain ⟨hk, hr⟩ := demote_parts cfg (p.pending a) (nonceOf p a)
  rw [demoteOne_eq rfl rfl]
  refine List.foldlRecOn _ _ ⟨h.pend.shrink ha hk, h.wait, h.pl, h.wl⟩ fun q hq t ht =>
    reAdd_preserves (fun _ all' hq => hq.setAll all') (addWaiting_inv cfg q t hq ?_)
  -- what is handed back was pending for `a`, so `a` sent it
  rw [h.pend.owner a t (hr.subset ht)]
  exact ha

theorem commit_inv (cfg : Cfg) (p : Pool) (included : List Nat) (nonces : List (Nat × Nat)) (h : Inv pl wl p) :
    Inv pl wl (commit cfg p included nonces) :=
  commit_cases (fun _ _ => ⟨h.pend, h.wait, h.pl, h.wl⟩) (fun _ _ _ => ⟨h.pend.filter _, h.wait.filter _, h.pl, h.wl⟩)
    (fun _ hq => List.foldlRecOn _ _ hq fun q hq a ha => demoteOne_inv cfg q a hq (mKeys_sub _ a ha))
    fun q a ha hq => promoteOne_inv cfg q a hq ha

theorem flush_inv (p : Pool) (h : Inv pl wl p) : Inv pl wl (flush p) :=
  ⟨QInv.empty pl, QInv.empty wl, h.pl, h.wl⟩

theorem submitAdmin_inv (p : Pool) (id : Nat) (h : Inv pl wl p) : Inv pl wl (submitAdmin p id).1 :=
  submitAdmin_cases p id h fun _ => ⟨h.pend, h.wait, h.pl, h.wl⟩

end AnnVerif.Pool
