/-
  Start-up (Model/Crash.lean) is decided by how far the commit got: the saved state is
  its last write, the application marker the one before, so an ordered disk is in one of three
  stages (state saved / marker durable, state not / neither), and `startup` is computed once per stage.
  A write sequence keeps the ordering facts at every crash point when each of the three writes that
  commit something finds durable what it commits.
-/
import AnnVerif.Model.Crash
namespace AnnVerif.Crash

theorem startup_saved (first : Bool) {d : Disk} (h : Ordered d) (hs : d.state = true) :
    startup first d = .ok := by
  obtain ⟨hstore, happ, hstate⟩ := h
  obtain ⟨ha, -⟩ := hstate hs
  obtain ⟨ht, hst⟩ := happ ha
  obtain ⟨hm, hp, -, hsc⟩ := hstore hst
  simp [startup, hs, ha, ht, hst, hm, hp, hsc]

theorem startup_unapplied (first : Bool) {d : Disk} (ha : d.app = false) (hs : d.state = false) :
    startup first d = .ok := by
  simp [startup, ha, hs]

/-- marker durable, state not saved: the store is seen at h-1 (NewBlockchainReactor takes a durable
    descriptor back in memory) and RecoverFromCrash finds the application at h -/
theorem startup_window (first : Bool) {d : Disk} (ht : d.trie = true) (ha : d.app = true) (hs : d.state = false) :
    startup first d = if first then .okReexecuted else .appAhead := by
  cases first <;> simp [startup, ht, ha, hs]

theorem startup_ordered (first : Bool) (d : Disk) (h : Ordered d) :
    startup first d = .ok ∨
    ((d.store = true ∧ d.app = true ∧ d.state = false) ∧
      startup first d = if first then .okReexecuted else .appAhead) := by
  cases hs : d.state with
  | true => exact .inl (startup_saved first h hs)
  | false =>
    cases ha : d.app with
    | false => exact .inl (startup_unapplied first ha hs)
    | true =>
      obtain ⟨ht, hst⟩ := h.2.1 ha
      exact .inr ⟨⟨hst, rfl, rfl⟩, startup_window first ht ha hs⟩

/-- what `w` commits is durable: the conclusion of the clause of `Ordered` whose premise `w` sets -/
def ready (d : Disk) : W → Prop
  | .descriptor => d.bmeta ∧ d.parts ∧ d.lastCommit ∧ d.seenCommit
  | .marker => d.trie ∧ d.store
  | .stateKey => d.app ∧ d.interm
  | _ => True

theorem ordered_apply {d : Disk} {w : W} (h : Ordered d) (hr : ready d w) : Ordered (apply d w) := by
  obtain ⟨hstore, happ, hstate⟩ := h
  cases w with
  -- a committing write sets the premise of one clause, and may set a flag some other clause concludes
  | descriptor => exact ⟨fun _ => hr, fun ha => ⟨(happ ha).1, rfl⟩, hstate⟩
  | marker => exact ⟨hstore, fun _ => hr, fun hs => ⟨rfl, (hstate hs).2⟩⟩
  | stateKey => exact ⟨hstore, happ, fun _ => hr⟩
  -- any other write sets no premise, and flags are never cleared
  | bmeta | part | lastCommit | seenCommit => exact ⟨fun hs => by simp [apply, hstore hs], happ, hstate⟩
  | trie => exact ⟨hstore, fun ha => ⟨rfl, (happ ha).2⟩, hstate⟩
  | interm => exact ⟨hstore, happ, fun hs => ⟨(hstate hs).1, rfl⟩⟩
  | flush | other | receipts => exact ⟨hstore, happ, hstate⟩

def inOrder : Disk → List W → Prop
  | _, [] => True
  | d, w :: ws => ready d w ∧ inOrder (apply d w) ws

theorem inOrder_crash {ws : List W} : ∀ {d : Disk}, Ordered d → inOrder d ws →
    ∀ j, Ordered ((ws.take j).foldl apply d) := by
  induction ws with
  | nil => intro d h _ j; simpa using h
  | cons w ws ih =>
    intro d h hi j
    cases j with
    | zero => exact h
    | succ j => exact ih (ordered_apply h hi.1) hi.2 j

theorem inOrder_partsThen (rest : List W) {d : Disk} (hp : d.parts = true) :
    ∀ n, inOrder d (partsThen n rest) ↔ inOrder d rest
  | 0 => .rfl
  | n + 1 => by
    have : apply d .part = d := by cases d; simp_all [apply]
    simp only [partsThen, inOrder, ready, this, true_and]
    exact inOrder_partsThen rest hp n

theorem inOrder_others (d : Disk) : ∀ k, inOrder d (List.replicate k .other)
  | 0 => trivial
  | k + 1 => ⟨trivial, inOrder_others d k⟩

theorem inOrder_append (ws ws' : List W) : ∀ d : Disk,
    inOrder d (ws ++ ws') ↔ inOrder d ws ∧ inOrder (ws.foldl apply d) ws' := by
  induction ws with
  | nil => intro d; simp [inOrder]
  | cons w ws ih => intro d; simp [inOrder, ih, and_assoc]

/-- K2 in the form that carries it: in the node's own order each committing write comes after what
    it commits (a block has at least one part) -/
theorem commitWrites_inOrder (nParts nOther : Nat) :
    inOrder {} (commitWrites (nParts + 1) nOther) := by
  simp only [commitWrites, partsThen, inOrder, ready, apply, true_and]
  rw [inOrder_partsThen _ rfl, inOrder_append]
  exact ⟨by simp [afterParts, inOrder, ready, apply], inOrder_others _ _⟩

end AnnVerif.Crash
