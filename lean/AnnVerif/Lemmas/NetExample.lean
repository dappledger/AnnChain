/-
  Non-vacuity of C01 layer 2: freshly started nodes satisfy what `Setting` asks of the initial
  state (`Node.start_full`), a Boolean checker decides `ValidRun` for concrete schedules (`validRun_of_B`),
  and a concrete system - four equal validators, three of them honest nodes, the fourth Byzantine
  and silent - runs a schedule in which all three nodes commit block "b" at height 1.
-/
import AnnVerif.Lemmas.NetAgreement
import AnnVerif.Lemmas.NodeStart
namespace AnnVerif.Net
open AnnVerif.Node

def sameContentB (w v : VoteSet.Vote) : Bool :=
  w.height == v.height && w.round == v.round && w.type == v.type && decide (w.bid = v.bid)

def authB (K : Nat) (g : G) : In → Bool
  | .msg (.vote v true) _ =>
    (List.range K).all fun k' =>
      match (g.node k').me with
      | some j => if v.idx = (j : Int) then (g.node k').signed.any (fun w => sameContentB w v) else true
      | none => true
  | _ => true

def wellTimedB (n : Node) : In → Bool
  | .timeout h r _ => decide (h = n.height → r ≤ n.round)
  | _ => true

instance (b : VoteSet.BlockID) : Decidable b.Small := by unfold VoteSet.BlockID.Small; exact inferInstance

def validB (K : Nat) : G → List Act → Bool
  | _, [] => true
  | g, a :: rest =>
    decide (a.k < K) && wellTimedB (g.node a.k) a.i && authB K g a.i &&
      (offered (g.node a.k) a.i).all (fun x => decide x.1.bid.Small) && validB K (step g a) rest

theorem auth_of_B (K : Nat) (g : G) (i : In) (h : authB K g i = true) : Auth K g i := by
  intro v peer hi k' j hk' hme hidx
  subst hi
  simp only [authB, List.all_eq_true, List.mem_range] at h
  have := h k' hk'
  rw [hme] at this
  simp only [hidx, if_true, List.any_eq_true] at this
  obtain ⟨w, hw, hs⟩ := this
  simp only [sameContentB, Bool.and_eq_true, beq_iff_eq, decide_eq_true_eq] at hs
  exact ⟨w, hw, hs.1.1.1, hs.1.1.2, hs.1.2, hs.2⟩

theorem wellTimed_of_B (n : Node) (i : In) (h : wellTimedB n i = true) : WellTimed n i := by
  cases i with
  | timeout hh r s =>
    show hh = n.height → r ≤ n.round
    exact of_decide_eq_true h
  | _ => trivial

theorem validRun_of_B (K : Nat) (as : List Act) : ∀ g : G, validB K g as = true → ValidRun K g as := by
  induction as with
  | nil => intro g _ s hs; simp at hs
  | cons a rest ih =>
    intro g h s hs
    simp only [validB, Bool.and_eq_true, decide_eq_true_eq, List.all_eq_true] at h
    obtain ⟨⟨⟨⟨h1, h2⟩, h3⟩, h4⟩, h5⟩ := h
    cases s with
    | zero =>
      exact ⟨h1, wellTimed_of_B _ _ h2, auth_of_B _ _ _ h3, fun x hx => by simpa using h4 x hx⟩
    | succ s =>
      rw [stateAt_cons]
      have := ih (step g a) h5 s (by simpa using hs)
      simpa using this

def V4 : List VoteSet.Validator := [⟨[1], 1⟩, ⟨[2], 1⟩, ⟨[3], 1⟩, ⟨[4], 1⟩]
def vals4 : ValSet.ValSet := ValSet.newValSet ValSet.repaired [⟨[1], 1, 0⟩, ⟨[2], 1, 0⟩, ⟨[3], 1, 0⟩, ⟨[4], 1, 0⟩]

/-- nodes 0, 1, 2 run validators 0, 1, 2; validator 3 is Byzantine (and says nothing); block "b"
    is valid -/
def g4 : G where
  node k := Node.start repaired 1 vals4 (some k) false [([0x62], 1, true)]
  hist _ := []

def pv (i : Nat) : VoteSet.Vote := ⟨i, [UInt8.ofNat (i + 1)], 1, 0, 1, bidOf [0x62], 0⟩
def pc (i : Nat) : VoteSet.Vote := ⟨i, [UInt8.ofNat (i + 1)], 1, 0, 2, bidOf [0x62], 0⟩

/-- every node: start round 0, proposal and parts of "b" (from a peer; whoever the proposer is, the
    nodes only need to accept it - here it is sent with the signature of the round's proposer),
    own prevote, the two other prevotes, own precommit, the two other precommits -/
def sched4 : List Act :=
  let start (k : Nat) : List Act :=
    [⟨k, .timeout 1 0 .newHeight⟩, ⟨k, .msg (.proposal ⟨1, 0, [0x62], -1, []⟩ 0 false) "p"⟩, ⟨k, .msg (.parts 1 0 [0x62]) "p"⟩,
     ⟨k, .own⟩, ⟨k, .own⟩, ⟨k, .own⟩]
  start 0 ++ start 1 ++ start 2 ++
  [⟨0, .msg (.vote (pv 1) true) "n1"⟩, ⟨0, .msg (.vote (pv 2) true) "n2"⟩, ⟨0, .own⟩,
   ⟨1, .msg (.vote (pv 0) true) "n0"⟩, ⟨1, .msg (.vote (pv 2) true) "n2"⟩, ⟨1, .own⟩,
   ⟨2, .msg (.vote (pv 0) true) "n0"⟩, ⟨2, .msg (.vote (pv 1) true) "n1"⟩, ⟨2, .own⟩,
   ⟨0, .msg (.vote (pc 1) true) "n1"⟩, ⟨0, .msg (.vote (pc 2) true) "n2"⟩,
   ⟨1, .msg (.vote (pc 0) true) "n0"⟩, ⟨1, .msg (.vote (pc 2) true) "n2"⟩,
   ⟨2, .msg (.vote (pc 0) true) "n0"⟩, ⟨2, .msg (.vote (pc 1) true) "n1"⟩]

def final4 : G := stateAt g4 sched4 sched4.length

theorem setting4 : Setting 3 V4 (fun k => some k) g4 sched4 := by
  refine ⟨?_, ?_, validRun_of_B 3 sched4 g4 (by decide)⟩
  · intro k _
    exact ⟨start_full V4 (by decide) repaired 1 vals4 (by decide) k false _, rfl⟩
  · intro k k' j _ _ h1 h2
    injection h1 with h1
    injection h2 with h2
    omega

/-- the power hypothesis of `agreement_net` for this system (the other one is `setting4`): the Byzantine
    validator holds less than a third, 3 * 1 < 4 -/
example : 3 * Agreement.pow V4.length (wOf V4) (fun j => ¬ Honest 3 (fun k => some k) j) < Fairness.S V4.length (wOf V4) := by
  have e : ∀ j, (¬ Honest 3 (fun k => some k) j) ↔ ¬ j < 3 := by
    intro j
    constructor
    · intro h hj; exact h ⟨j, hj, rfl⟩
    · intro h ⟨k, hk, hm⟩
      injection hm with hm
      omega
  unfold Agreement.pow
  simp only [e]
  simp [Fairness.S, V4, wOf]

theorem commits4 : ∀ k, k < 3 → Emit.commit 1 [0x62] ∈ ((stateAt g4 sched4 sched4.length).node k).out := by decide

example : ∀ k, k < 3 → Emit.commit 1 [0x62] ∈ ((stateAt g4 sched4 sched4.length).node k).out := commits4

end AnnVerif.Net
