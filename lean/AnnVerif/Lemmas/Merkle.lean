/-
  The simple Merkle tree (go-merkle/simple_tree.go). `n ≥ 2` leaf hashes are cut after the first ⌈n/2⌉
  (`Halves`); `root`, `aunts` and the verifier `computeRev` have one equation each at such a cut, and proofs
  go by induction over it (`tree_induction`): the generated proof verifies (`computeRev_complete`); a hash
  has one proof per index and total, or the combiner collides (`computeRev_inj`).
-/
import AnnVerif.Model.Merkle
namespace AnnVerif.Merkle

variable (N : Bytes → Bytes → Bytes)

/-- the two-hash combiner collides on some two pairs -/
def CollisionN : Prop := ∃ a b c d : Bytes, (a, b) ≠ (c, d) ∧ N a b = N c d

/-- `l ++ r` is cut where `SimpleHashFromHashes` cuts it: `l` holds the first ⌈n/2⌉ of the `n ≥ 2` leaves -/
structure Halves (l r : List Bytes) : Prop where
  bal : l.length = (l.length + r.length + 1) / 2
  pos : 0 < r.length

theorem Halves.left_pos {l r : List Bytes} (h : Halves l r) : 0 < l.length := by
  have := h.bal; have := h.pos; omega

theorem Halves.cut {l r : List Bytes} (h : Halves l r) :
    2 ≤ (l ++ r).length ∧ ((l ++ r).length + 1) / 2 = l.length := by
  rw [List.length_append]
  exact ⟨Nat.add_le_add h.left_pos h.pos, h.bal.symm⟩

/-- induction over a list of leaves the way the tree is built: empty, one leaf, or two subtrees at the cut
    (replaces the well-founded recursion on the length by which `root` and `aunts` are defined) -/
theorem tree_induction {P : List Bytes → Prop} (nil : P []) (leaf : ∀ h, P [h])
    (node : ∀ l r, Halves l r → P l → P r → P (l ++ r)) (hs : List Bytes) : P hs := by
  induction hn : hs.length using Nat.strongRecOn generalizing hs with
  | _ n ih =>
    by_cases h0 : n = 0
    · rw [List.length_eq_zero_iff.1 (hn.trans h0)]
      exact nil
    by_cases h1 : n = 1
    · obtain ⟨h, rfl⟩ := List.length_eq_one_iff.1 (hn.trans h1)
      exact leaf h
    obtain ⟨k, m, hk, hm, hb, hkm⟩ : ∃ k m, 0 < k ∧ 0 < m ∧ k = (k + m + 1) / 2 ∧ n = k + m :=
      ⟨(n + 1) / 2, n - (n + 1) / 2, by omega⟩
    have hl : (hs.take k).length = k := by
      rw [List.length_take, hn, hkm]; exact Nat.min_eq_left (Nat.le_add_right k m)
    have hr : (hs.drop k).length = m := by rw [List.length_drop, hn, hkm, Nat.add_sub_cancel_left]
    rw [← List.take_append_drop k hs]
    exact node _ _ ⟨by rw [hl, hr]; exact hb, by rw [hr]; exact hm⟩
      (ih k (hkm ▸ Nat.lt_add_of_pos_right hm) _ hl) (ih m (hkm ▸ Nat.lt_add_of_pos_left hk) _ hr)

theorem root_one (h : Bytes) : root N [h] = some h := by rw [root]

theorem root_append {l r : List Bytes} (h : Halves l r) :
    root N (l ++ r) = combine N (root N l) (root N r) := by
  have h2 := h.cut.1
  match e : l ++ r, h2 with
  | a :: b :: t, _ => rw [root, ← e, h.cut.2, List.take_left, List.drop_left]

theorem aunts_append {l r : List Bytes} (h : Halves l r) (i : Nat) :
    aunts N (l ++ r) i =
      if i < l.length then aunts N l i ++ (root N r).toList
      else aunts N r (i - l.length) ++ (root N l).toList := by
  have h2 := h.cut.1
  match e : l ++ r, h2 with
  | a :: b :: t, _ => rw [aunts, ← e, h.cut.2, List.take_left, List.drop_left]

theorem root_isSome (hs : List Bytes) (hne : 0 < hs.length) : ∃ r, root N hs = some r := by
  induction hs using tree_induction with
  | nil => exact absurd hne (Nat.lt_irrefl 0)
  | leaf h => exact ⟨h, root_one N h⟩
  | node l r h ihl ihr =>
    obtain ⟨x, hx⟩ := ihl h.left_pos
    obtain ⟨y, hy⟩ := ihr h.pos
    exact ⟨N x y, by rw [root_append N h, hx, hy]; rfl⟩

theorem computeRev_one (cfg : Cfg) (leaf : Bytes) (rev : List Bytes) :
    computeRev N cfg 0 1 leaf rev = if rev.isEmpty then .ok (some leaf) else .ok none := by
  rw [computeRev.eq_def, if_neg (by simp), if_neg (by decide), if_pos rfl]

theorem computeRev_node (cfg : Cfg) {l r : List Bytes} (h : Halves l r) (i : Nat) (hi : i < l.length + r.length)
    (leaf a : Bytes) (rest : List Bytes) :
    computeRev N cfg (i : Int) ((l.length + r.length : Nat) : Int) leaf (a :: rest) =
      if i < l.length then liftL N a (computeRev N cfg (i : Int) (l.length : Int) leaf rest)
      else liftR N a (computeRev N cfg ((i - l.length : Nat) : Int) (r.length : Int) leaf rest) := by
  have hb := h.bal
  have hm := h.pos
  have hd : Int.tdiv (((l.length + r.length : Nat) : Int) + 1) 2 = (l.length : Int) := by
    rw [Int.tdiv_eq_ediv_of_nonneg (Int.le_add_one (Int.natCast_nonneg _))]; omega
  have h1 : ((cfg.checkNeg && decide ((i : Int) < 0)) ||
      decide ((i : Int) ≥ ((l.length + r.length : Nat) : Int))) = false := by
    rw [decide_eq_false (Int.not_lt.2 (Int.natCast_nonneg i)), Bool.and_false, Bool.false_or,
      decide_eq_false (Int.not_le.2 (Int.ofNat_lt.2 hi))]
  rw [computeRev.eq_def, h1, if_neg Bool.false_ne_true, if_neg (by omega), if_neg (by omega)]
  dsimp only
  rw [hd, Int.natCast_add, Int.add_comm (l.length : Int), Int.add_sub_cancel]
  by_cases hik : i < l.length
  · rw [if_pos hik, if_pos (Int.ofNat_lt.2 hik)]
  · rw [if_neg hik, if_neg (mt Int.ofNat_lt.1 hik), Int.ofNat_sub (Nat.le_of_not_lt hik)]

theorem liftL_ok {a : Bytes} {x : Res (Option Bytes)} {r : Bytes}
    (h : liftL N a x = .ok (some r)) : ∃ l, x = .ok (some l) ∧ r = N l a :=
  match x, h with
  | .ok (some l), h => ⟨l, rfl, (Option.some.inj (Res.ok.inj h)).symm⟩

theorem liftR_ok {a : Bytes} {x : Res (Option Bytes)} {r : Bytes}
    (h : liftR N a x = .ok (some r)) : ∃ l, x = .ok (some l) ∧ r = N a l :=
  match x, h with
  | .ok (some l), h => ⟨l, rfl, (Option.some.inj (Res.ok.inj h)).symm⟩

theorem liftL_of_ok (a : Bytes) (o : Option Bytes) : liftL N a (.ok o) = .ok (combine N o (some a)) := by
  cases o <;> rfl

theorem liftR_of_ok (a : Bytes) (o : Option Bytes) : liftR N a (.ok o) = .ok (combine N (some a) o) := by
  cases o <;> rfl

/-- C17.1 (completeness), for every item count ≥ 1 and both variants -/
theorem computeRev_complete (cfg : Cfg) (hs : List Bytes) (i : Nat) (hi : i < hs.length) :
    computeRev N cfg (i : Int) (hs.length : Int) hs[i] (aunts N hs i).reverse = .ok (root N hs) := by
  induction hs using tree_induction generalizing i with
  | nil => exact absurd hi (Nat.not_lt_zero _)
  | leaf h =>
    obtain rfl : i = 0 := Nat.lt_one_iff.1 hi
    rw [aunts, root_one]
    exact computeRev_one N cfg h []
  | node l r h ihl ihr =>
    rw [List.length_append] at hi ⊢
    rw [root_append N h, aunts_append N h]
    by_cases hik : i < l.length
    · obtain ⟨y, hy⟩ := root_isSome N r h.pos
      rw [if_pos hik, hy, Option.toList_some, List.reverse_concat, computeRev_node N cfg h i hi, if_pos hik,
        List.getElem_append_left hik, ihl i hik, liftL_of_ok]
    · obtain ⟨x, hx⟩ := root_isSome N l h.left_pos
      rw [if_neg hik, hx, Option.toList_some, List.reverse_concat, computeRev_node N cfg h i hi, if_neg hik,
        List.getElem_append_right (Nat.le_of_not_lt hik), ihr (i - l.length) (by omega), liftR_of_ok]

/-- For a fixed index and total a hash has at most one proof: two that compute to the same hash have the same leaf
    and the same aunts, or there is a collision of the combiner (where, from the root down, they first differ).
    Neither the tree nor the range of the index matters: the walk is that of `computeRev` itself. -/
theorem computeRev_inj (cfg : Cfg) (idx total : Int) (leaf leaf' : Bytes) (rev rev' : List Bytes) (r : Bytes)
    (h : computeRev N cfg idx total leaf rev = .ok (some r))
    (h' : computeRev N cfg idx total leaf' rev' = .ok (some r)) :
    (leaf = leaf' ∧ rev = rev') ∨ CollisionN N := by
  fun_induction computeRev N cfg idx total leaf rev generalizing rev' r with
  | case3 rev idx he hg h0 =>
    rw [computeRev.eq_def, if_neg hg, if_neg h0, if_pos rfl] at h'
    split at h'
    · rename_i he'
      rw [List.isEmpty_iff.1 he, List.isEmpty_iff.1 he']
      exact .inl ⟨Option.some.inj (Res.ok.inj (h.trans h'.symm)), rfl⟩
    · cases h'
  | case6 idx total hg h0 h1 a rest numLeft hlt ih =>
    rw [computeRev.eq_def, if_neg hg, if_neg h0, if_neg h1] at h'
    cases rev' with
    | nil => cases h'
    | cons a' rest' =>
      dsimp only at h'
      rw [if_pos hlt] at h'
      obtain ⟨y, hy, rfl⟩ := liftL_ok N h
      obtain ⟨y', hy', hN⟩ := liftL_ok N h'
      by_cases heq : (y, a) = (y', a')
      · cases heq
        exact (ih rest' y hy hy').imp_left fun e => ⟨e.1, congrArg _ e.2⟩
      · exact .inr ⟨y, a, y', a', heq, hN⟩
  | case7 idx total hg h0 h1 a rest numLeft hge ih =>
    rw [computeRev.eq_def, if_neg hg, if_neg h0, if_neg h1] at h'
    cases rev' with
    | nil => cases h'
    | cons a' rest' =>
      dsimp only at h'
      rw [if_neg hge] at h'
      obtain ⟨y, hy, rfl⟩ := liftR_ok N h
      obtain ⟨y', hy', hN⟩ := liftR_ok N h'
      by_cases heq : (a, y) = (a', y')
      · cases heq
        exact (ih rest' y hy hy').imp_left fun e => ⟨e.1, congrArg _ e.2⟩
      · exact .inr ⟨a, y, a', y', heq, hN⟩
  | _ => cases h

/-- C17.2 (soundness with extraction): the offered proof computes the hash that the generated proof computes -/
theorem computeRev_sound (cfg : Cfg) (hs : List Bytes) (i : Nat) (hi : i < hs.length) (leaf : Bytes)
    (rev : List Bytes) (r : Bytes) (hroot : root N hs = some r)
    (hc : computeRev N cfg (i : Int) (hs.length : Int) leaf rev = .ok (some r)) :
    leaf = hs[i] ∨ CollisionN N :=
  (computeRev_inj N cfg _ _ _ _ _ _ r hc (hroot ▸ computeRev_complete N cfg hs i hi)).imp_left And.left

/-- repaired: the range guard `index < 0 || index >= total` answers nil before anything else is looked at -/
theorem computeRev_out_of_range (idx total : Int) (l : Bytes) (rev : List Bytes) (h : idx < 0 ∨ idx ≥ total) :
    computeRev N repaired idx total l rev = .ok none := by
  rw [computeRev.eq_def, if_pos]
  rcases h with h | h <;> simp [repaired, h]

/-- repaired: a negative index never verifies -/
theorem computeRev_neg_repaired (idx total : Int) (l : Bytes) (rev : List Bytes) (h : idx < 0) :
    computeRev N repaired idx total l rev = .ok none :=
  computeRev_out_of_range N idx total l rev (.inl h)

/-- as found: index −1 is accepted with the proof of index 0 (two leaves) -/
theorem computeRev_neg_asFound (h0 h1 : Bytes) :
    computeRev N asFound (-1) 2 h0 [h1] = .ok (some (N h0 h1)) := by
  simp [computeRev, asFound, liftL, Int.tdiv]

/-- inherent to the tree format (both variants): the proof of leaf 0 of THREE leaves also
    verifies for total FOUR. -/
theorem computeRev_other_total (cfg : Cfg) (h0 h1 h2 : Bytes) :
    root N [h0, h1, h2] = some (N (N h0 h1) h2) ∧
    computeRev N cfg 0 4 h0 [h2, h1] = .ok (some (N (N h0 h1) h2)) := by
  constructor
  · simp [root, combine]
  · simp [computeRev, liftL, Int.tdiv]

/-- repaired: `computeHashFromAunts` returns (a hash or nil) for EVERY index, total, leaf and
    aunt list — it never reaches the `total = 0` panic. -/
theorem computeRev_repaired_total (l : Bytes) (rev : List Bytes) (idx total : Int) :
    ∃ o, computeRev N repaired idx total l rev = .ok o := by
  fun_induction computeRev N repaired idx total l rev
  case case2 hg =>
    -- the panic at `total = 0` sits behind the range test, and no index is both ≥ 0 and < 0
    simp [repaired] at hg; omega
  case case6 ih =>
    obtain ⟨o, ho⟩ := ih
    exact ⟨_, ho ▸ liftL_of_ok N _ o⟩
  case case7 ih =>
    obtain ⟨o, ho⟩ := ih
    exact ⟨_, ho ▸ liftR_of_ok N _ o⟩
  all_goals exact ⟨_, rfl⟩

theorem verify_ok_true_iff {cfg : Cfg} {idx total : Int} {leaf : Bytes} {aunts : List Bytes} {r : Bytes} :
    verify N cfg idx total leaf aunts r = .ok true ↔
      computeRev N cfg idx total leaf aunts.reverse = .ok (some r) := by
  unfold verify compute
  cases computeRev N cfg idx total leaf aunts.reverse with
  | ok o => cases o <;> simp
  | err e => simp
  | panic s => simp

end AnnVerif.Merkle
