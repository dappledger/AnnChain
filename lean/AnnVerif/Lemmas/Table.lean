/-
  Checkers for facts about a fixed table of rows keyed by strings, made for evaluation: comparing
  two strings is slow, so each string is turned into a number once (distinctness), or looked at
  only where the numeric columns already agree (lookup).
-/
namespace AnnVerif.Table

/-- the UTF-8 bytes of `s` read as one number; any function of `s` would do for `nodup_of_distinct_keys` -/
def strKey (s : String) : Nat := s.toByteArray.data.toList.foldl (fun a c => a * 256 + c.toNat) 0

def distinctNat : List Nat → Bool
  | [] => true
  | a :: l => l.all (fun b => !Nat.beq a b) && distinctNat l

theorem nodup_of_distinctNat : ∀ {l : List Nat}, distinctNat l = true → l.Nodup
  | [], _ => List.nodup_nil
  | a :: l, h => by
    rw [distinctNat, Bool.and_eq_true, List.all_eq_true] at h
    refine List.nodup_cons.2 ⟨fun hm => ?_, nodup_of_distinctNat h.2⟩
    have := h.1 a hm
    rw [Nat.beq_refl] at this
    cases this

theorem nodup_of_distinct_keys {α : Type _} (f : α → Nat) {l : List α} (h : distinctNat (l.map f) = true) :
    l.Nodup :=
  (List.pairwise_map.1 (nodup_of_distinctNat h)).imp fun hne e => hne (congrArg f e)

def hasRow (name fn : String) (n l : Nat) : List (String × String × Nat × Nat) → Bool
  | [] => false
  | (name', fn', n', l') :: t =>
    (Nat.beq n' n && Nat.beq l' l && name' == name && fn' == fn) || hasRow name fn n l t

theorem contains_of_hasRow {name fn : String} {n l : Nat} :
    ∀ {t : List (String × String × Nat × Nat)}, hasRow name fn n l t = true → t.contains (name, fn, n, l) = true
  | (name', fn', n', l') :: t, h => by
    rw [hasRow, Bool.or_eq_true] at h
    rw [List.contains_cons, Bool.or_eq_true]
    rcases h with h | h
    · simp only [Bool.and_eq_true, beq_iff_eq] at h
      obtain ⟨⟨⟨hn, hl⟩, rfl⟩, rfl⟩ := h
      rw [Nat.eq_of_beq_eq_true hn, Nat.eq_of_beq_eq_true hl]
      exact .inl (beq_self_eq_true _)
    · exact .inr (contains_of_hasRow h)

end AnnVerif.Table
