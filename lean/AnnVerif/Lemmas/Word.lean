/-
  256-bit words (eth/core/vm/instructions.go): the bounds by which every instruction of the model answers
  below 2^256, one per class of instruction (Props/C10 `ops_wf` lists the instructions), and EXP's
  square-and-multiply loop as a power modulo 2^256 (`powMod_eq`).
-/
import AnnVerif.Model.Word
namespace AnnVerif.Word

theorem M_pos : 0 < M := Nat.two_pow_pos 256

theorem ofInt_natCast (n : Nat) (h : n < M) : ofInt (n : Int) = n := by
  unfold ofInt
  rw [Int.emod_eq_of_lt (Int.natCast_nonneg n) (Int.ofNat_lt.2 h), Int.toNat_natCast]

theorem ofInt_lt (i : Int) : ofInt i < M := by
  have hM : (0 : Int) < (M : Int) := Int.natCast_pos.2 M_pos
  exact (Int.toNat_lt (Int.emod_nonneg i (Int.ne_of_gt hM))).2 (Int.emod_lt_of_pos i hM)

/-- the instructions that answer 0 on a degenerate operand (division by zero, a shift by 256 or more) -/
theorem zero_or_lt {c : Prop} [Decidable c] {x : Nat} (h : x < M) : (if c then 0 else x) < M := by
  split
  · exact M_pos
  · exact h

/-- the comparisons -/
theorem cmp_lt (c : Prop) [Decidable c] : (if c then 1 else 0) < M := by
  split
  · exact Nat.one_lt_two_pow (by decide)
  · exact M_pos

theorem sar_lt (s v : Nat) : sar s v < M := by
  unfold sar
  split
  · exact zero_or_lt (Nat.sub_one_lt (Nat.ne_of_gt M_pos))
  · exact ofInt_lt _

theorem pow_split (a b : Nat) : a ^ b = (a * a) ^ (b / 2) * a ^ (b % 2) := by
  rw [← Nat.pow_two, ← Nat.pow_mul, ← Nat.pow_add, Nat.div_add_mod]

theorem powMod_eq (fuel a b : Nat) : powMod fuel a b = a ^ (b % 2 ^ fuel) % M := by
  induction fuel generalizing a b with
  | zero => rw [powMod, Nat.pow_zero, Nat.mod_one]; rfl
  | succ n ih =>
    rw [powMod]
    by_cases h0 : b = 0
    · rw [if_pos h0, h0, Nat.zero_mod]; rfl
    · rw [if_neg h0]
      dsimp only
      rw [ih, ← Nat.pow_mod, pow_split a (b % 2 ^ (n + 1)), Nat.pow_succ, Nat.mod_mul_left_div_self,
        Nat.mod_mul_left_mod]
      by_cases h1 : b % 2 = 1
      · rw [if_pos h1, h1, Nat.pow_one, Nat.mul_mod a, Nat.mod_mod, ← Nat.mul_mod, Nat.mul_comm]
      · rw [if_neg h1, Nat.mod_two_ne_one.1 h1, Nat.pow_zero, Nat.mul_one]

end AnnVerif.Word
