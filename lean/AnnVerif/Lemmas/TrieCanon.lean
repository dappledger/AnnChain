/-
  The trie is a function of its content: two tries that satisfy the invariant (`WF`, `Br`) and read
  the same for every terminated key are the same tree, node for node (`canon`), whatever the order of
  the writes and deletes that built them.
-/
import AnnVerif.Lemmas.TrieMap
namespace AnnVerif.Trie

theorem slotVal_ext {a b : Node} (ha : SlotVal a) (hb : SlotVal b) (h : getN a [] = getN b []) : a = b := by
  rcases slotVal_cases ha with rfl | ⟨v, rfl⟩ <;> rcases slotVal_cases hb with rfl | ⟨w, rfl⟩
  · rfl
  · cases h
  · cases h
  · cases h; rfl

theorem eq_empty {t : Node} (ht : WF t) (hb : Br t) (h : ∀ k, TermKey k → getN t k = none) : t = .empty := by
  refine (empty_or t).resolve_right fun hne => ?_
  obtain ⟨k, v, hk, hg⟩ := witness ht hb hne
  rw [h k hk] at hg; cases hg

/-- a branch node holds two keys that differ in their first nibble, which two keys of a short node never do
    (`short_ne_full`) -/
theorem two_first {cs : Children} (ht : WF (.full cs)) (hb : Br (.full cs)) :
    ∃ i j r s v w, i ≠ j ∧ TermKey (i :: r) ∧ TermKey (j :: s) ∧
      getN (.full cs) (i :: r) = some v ∧ getN (.full cs) (j :: s) = some w := by
  obtain ⟨i, j, hij, hi, hj⟩ := hb.1
  have ih : ∀ i, i < 16 → Br (cs.get i) → (cs.get i).isEmpty = false →
      ∃ k v, TermKey k ∧ getN (cs.get i) k = some v :=
    fun i h16 => witness (wfc_sub ht (by omega))
  obtain ⟨r, v, hk, hg⟩ := child_witness ht hb.2 (ih i) hi
  obtain ⟨s, w, hk', hg'⟩ := child_witness ht hb.2 (ih j) hj
  exact ⟨i, j, r, s, v, w, hij, hk, hk', hg, hg'⟩

theorem short_ne_full {key : Key} {c : Node} {cs : Children} (h1 : WF (.short key c)) (h2 : WF (.full cs))
    (b2 : Br (.full cs)) (he : ∀ k, TermKey k → getN (.short key c) k = getN (.full cs) k) : False := by
  obtain ⟨i, j, r, s, v, w, hij, hki, hkj, hgi, hgj⟩ := two_first h2 b2
  rw [← he _ hki] at hgi
  rw [← he _ hkj] at hgj
  have p1 := short_prefix h1 hgi
  have p2 := short_prefix h1 hgj
  cases key with
  | nil => exact absurd rfl (wf_short_key_ne h1)
  | cons x rest =>
    rw [List.cons_prefix_cons] at p1 p2
    exact absurd (p1.1.symm.trans p2.1) hij

theorem short_key_not_longer {key1 key2 : Key} {c1 c2 : Node} {x : Nat} {rest : Key}
    (h1 : WF (.short key1 c1)) (h2 : WF (.short key2 c2)) (hb2 : Br (.short key2 c2))
    (he : ∀ k, TermKey k → getN (.short key1 c1) k = getN (.short key2 c2) k)
    (hk : key1 = key2 ++ x :: rest) : False := by
  subst hk
  rcases wf_short h2 with ⟨hk2, w, rfl⟩ | ⟨hk2, cs2, rfl, hc2⟩
  · -- key2 itself is a key of the second trie
    have hg := getN_short_value_self hk2 w
    rw [← he key2 hk2] at hg
    have := (short_prefix h1 hg).length_le
    simp at this
    omega
  · -- below key2 the second trie branches, the first goes on with the nibble x
    have ht := (wf_short_tail h1).2
    refine short_ne_full ht hc2 hb2 (fun k hk => ?_)
    have := he (key2 ++ k) (tk_under hk2.2 hk)
    rwa [getN_short_append h2, ← mkShort_short, getN_mkShort (Or.inl ht) (by rw [mkShort_short]; exact h1),
      if_pos (List.prefix_append _ _), List.drop_left] at this

theorem short_keys_eq {key1 key2 : Key} {c1 c2 : Node} (h1 : WF (.short key1 c1)) (b1 : Br (.short key1 c1))
    (h2 : WF (.short key2 c2)) (b2 : Br (.short key2 c2))
    (he : ∀ k, TermKey k → getN (.short key1 c1) k = getN (.short key2 c2) k) : key1 = key2 := by
  -- both keys are prefixes of a key the tries hold, so one continues the other
  obtain ⟨k, v, hk, hg⟩ := witness h1 b1 rfl
  have p1 := short_prefix h1 hg
  rw [he k hk] at hg
  rcases List.prefix_or_prefix_of_prefix p1 (short_prefix h2 hg) with ⟨s, hs⟩ | ⟨s, hs⟩
  · cases s with
    | nil => simpa using hs
    | cons x rest => exact (short_key_not_longer h2 h1 b1 (fun k hk => (he k hk).symm) hs.symm).elim
  · cases s with
    | nil => simpa using hs.symm
    | cons x rest => exact (short_key_not_longer h1 h2 b2 he hs.symm).elim

/-- Same content, same tree. By induction over the first trie: the second has the same shape at the root
    (`eq_empty`, `short_ne_full`, `short_keys_eq`), and below the root the two again read the same. -/
theorem canon {t1 t2 : Node} (h1 : WF t1) (b1 : Br t1) (h2 : WF t2) (b2 : Br t2)
    (he : ∀ k, TermKey k → getN t1 k = getN t2 k) : t1 = t2 := by
  suffices main : ∀ t1, WF t1 → Br t1 → ∀ t2, WF t2 → Br t2 → (∀ k, TermKey k → getN t1 k = getN t2 k) → t1 = t2 from
    main t1 h1 b1 t2 h2 b2 he
  refine wf_induction ?_ ?_ ?_ ?_
  · intro _ t2 h2 b2 he
    exact (eq_empty h2 b2 (fun k hk => by rw [← he k hk, getN_empty])).symm
  · intro key1 w1 hk1 b1 t2 h2 b2 he
    have h1 : WF (.short key1 (.value w1)) := hk1
    cases t2 with
    | empty => exact eq_empty h1 b1 (fun k hk => by rw [he k hk, getN_empty])
    | value _ => exact h2.elim
    | full cs2 => exact (short_ne_full h1 h2 b2 he).elim
    | short key2 c2 =>
      have hkeys := short_keys_eq h1 b1 h2 b2 he
      subst hkeys
      rcases wf_short h2 with ⟨_, w2, rfl⟩ | ⟨hk2, _, _, _⟩
      · have g := he _ hk1
        rw [getN_short_value_self hk1, getN_short_value_self hk1] at g
        cases g; rfl
      · exact absurd hk1 (nk_not_tk hk2.2)
  · intro key1 cs1 hk1 hc1 ih b1 t2 h2 b2 he
    have h1 : WF (.short key1 (.full cs1)) := ⟨hk1, hc1⟩
    cases t2 with
    | empty => exact eq_empty h1 b1 (fun k hk => by rw [he k hk, getN_empty])
    | value _ => exact h2.elim
    | full cs2 => exact (short_ne_full h1 h2 b2 he).elim
    | short key2 c2 =>
      have hkeys := short_keys_eq h1 b1 h2 b2 he
      subst hkeys
      rcases wf_short h2 with ⟨hk2, _, _⟩ | ⟨_, cs2, rfl, hc2⟩
      · exact absurd hk2 (nk_not_tk hk1.2)
      · rw [ih b1 (.full cs2) hc2 b2 (fun k hk => by
          have := he (key1 ++ k) (tk_under hk1.2 hk)
          rwa [getN_short_append h1, getN_short_append h2] at this)]
  · intro cs1 h1 ih b1 t2 h2 b2 he
    cases t2 with
    | empty => exact eq_empty h1 b1 (fun k hk => by rw [he k hk, getN_empty])
    | value _ => exact h2.elim
    | short key2 c2 => exact (short_ne_full h2 h1 b1 (fun k hk => (he k hk).symm)).elim
    | full cs2 =>
      rw [full_ext h1 h2 (fun s1 s2 => slotVal_ext s1 s2 (he [16] tk_term)) (fun i hi _ w2 =>
        ih i hi (brc_get cs1 i b1.2) (cs2.get i) w2 (brc_get cs2 i b2.2)
          (fun k hk => he (i :: k) (tk_child hi hk)))]

end AnnVerif.Trie
