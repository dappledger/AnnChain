/-
  "No precommit without a polka", over every run (C04 L1 lifted from the transition to the history).

  `signed` is the list of all votes the node has ever signed (a ghost field of the model, appended
  by `signAddVote`, read by nothing). `QJ` says: every precommit for a block in it - signed for the
  height the node is in - names a block for which the node's prevote set of THAT round reports
  +2/3. The invariant is kept by every move: the justification is there when the vote is signed
  (`Move.precommit` signs a block only on `maj23 (prevotes r)`, in the round the node is in:
  `Move.signs`), a reported majority is never withdrawn (`Move.stable`, from
  `VoteSet.addVote_maj23`, `setPeerMaj23_maj23`; rounds are only added), and when the height moves
  on the old height's votes are no longer the subject.

  Proof of lock, over every run: whenever the node holds a lock, its own prevote set of the round
  the lock was taken (or last renewed) in reports +2/3 for the locked block. A lock is only ever
  taken or renewed by `enterPrecommit` on exactly that majority, a reported majority is never
  withdrawn (`Move.stable`), and the lock is dropped when the height moves on.

  Also here: the look-up of a round's vote sets (`maj_some`, `find_round_append`,
  `find_round_replace`) and what ONE move does to the fields the later invariants read (`Move.stable`,
  `Move.signs`, `Move.me`, `Move.queued`; `Le.move` is in NodeMono, `Move.commits` in NodePast).
-/
import AnnVerif.Lemmas.NodeMono

namespace AnnVerif.Node

def OwnJust (n : Node) (v : VoteSet.Vote) : Prop :=
  v.height ≤ n.height ∧
    (v.type = 2 → v.height = n.height → v.bid.hash.isEmpty = false → maj23 (prevotes n v.round) = some v.bid)

/-- C04 L8. (Q for the queue a signed vote is put on in the same step; the statement reads `signed`.) -/
def QJ (n : Node) : Prop := ∀ v ∈ n.signed, OwnJust n v

/-- `n'` is `n` some steps later: the height did not go back, reported prevote majorities of the
    height persist, and what was signed meanwhile is justified -/
structure Ext (n n' : Node) : Prop where
  hle : n.height ≤ n'.height
  stable : n'.height = n.height → ∀ r b, maj23 (prevotes n r) = some b → maj23 (prevotes n' r) = some b
  /-- about `signed`, like `QJ` -/
  queue : ∃ extra, n'.signed = n.signed ++ extra ∧ ∀ m ∈ extra, OwnJust n' m

theorem OwnJust.persist {n n' : Node} (e : Ext n n') {v : VoteSet.Vote} (h : OwnJust n v) : OwnJust n' v := by
  obtain ⟨h1, h2⟩ := h
  refine ⟨Int.le_trans h1 e.hle, ?_⟩
  intro ht hh hb
  have hEq : n'.height = n.height := by have := e.hle; omega
  exact e.stable hEq _ _ (h2 ht (by omega) hb)

theorem QJ.ext {n n' : Node} (q : QJ n) (e : Ext n n') : QJ n' := by
  obtain ⟨ex, hq, hj⟩ := e.queue
  intro m hm
  rw [hq] at hm
  rcases List.mem_append.mp hm with hm | hm
  · exact (q m hm).persist e
  · exact hj m hm

/-! ### the look-up of a round's vote sets: `getRound n r = n.rounds.find? (·.round = r)`, and the same
    look-up in a frozen list (`prevotesOf`, `precommitsOf`) -/

theorem getRound_round {n : Node} {r : Int} {rv : RoundVotes} (h : getRound n r = some rv) : rv.round = r := by
  unfold getRound at h
  simpa using List.find?_some h

theorem getRound_mem {n : Node} {r : Int} {rv : RoundVotes} (h : getRound n r = some rv) : rv ∈ n.rounds :=
  List.mem_of_find?_eq_some h

/-- a majority is reported for a round (prevotes: `f = (·.prevotes)`, or precommits) by the vote set of
    the entry the look-up finds -/
theorem maj_some {o : Option RoundVotes} {f : RoundVotes → VoteSet.VoteSet} {b : VoteSet.BlockID} :
    maj23 (o.map f) = some b ↔ ∃ rv, o = some rv ∧ (f rv).maj23 = some b := by
  cases o with
  | none => exact ⟨fun h => (nomatch h), fun ⟨_, e, _⟩ => (nomatch e)⟩
  | some rv => exact ⟨fun h => ⟨rv, rfl, h⟩, fun ⟨_, e, hb⟩ => Option.some.inj e ▸ hb⟩

theorem find_votes {rs : List RoundVotes} {r : Int} {bid : VoteSet.BlockID} {f : RoundVotes → VoteSet.VoteSet}
    (hm : maj23 ((rs.find? (·.round = r)).map f) = some bid) : ∃ rv ∈ rs, rv.round = r ∧ (f rv).maj23 = some bid := by
  obtain ⟨rv, hf, hb⟩ := maj_some.mp hm
  exact ⟨rv, List.mem_of_find?_eq_some hf, by simpa using List.find?_some hf, hb⟩

theorem find_round_append {rs : List RoundVotes} {r : Int} {rv : RoundVotes} (h : rs.find? (·.round = r) = some rv)
    (extra : List RoundVotes) : (rs ++ extra).find? (·.round = r) = some rv := by
  rw [List.find?_append, h, Option.some_or]

/-- replacing the entry of round `R` by one of the same round commutes with the look-up -/
theorem find_round_replace {rs : List RoundVotes} {R : Int} {rv' : RoundVotes} (hR : rv'.round = R) (r : Int) :
    (rs.map fun x => if x.round = R then rv' else x).find? (·.round = r) =
      (rs.find? (·.round = r)).map fun x => if x.round = R then rv' else x := by
  rw [List.find?_map]
  congr 2
  funext x
  show decide ((if x.round = R then rv' else x).round = r) = decide (x.round = r)
  by_cases e : x.round = R
  · rw [if_pos e, hR, e]
  · rw [if_neg e]

theorem maj_append {n n' : Node} (extra : List RoundVotes) (h : n'.rounds = n.rounds ++ extra) (r : Int)
    (b : VoteSet.BlockID) (hm : maj23 (prevotes n r) = some b) : maj23 (prevotes n' r) = some b := by
  obtain ⟨rv, hf, hb⟩ := maj_some.mp hm
  exact maj_some.mpr ⟨rv, by rw [getRound, h]; exact find_round_append hf extra, hb⟩

theorem maj_map {n n' : Node} {R : Int} {rv rv' : RoundVotes} (hrv : getRound n R = some rv)
    (hR : rv'.round = rv.round) (h : n'.rounds = n.rounds.map (fun x => if x.round = R then rv' else x))
    (hst : ∀ b, rv.prevotes.maj23 = some b → rv'.prevotes.maj23 = some b)
    (r : Int) (b : VoteSet.BlockID) (hm : maj23 (prevotes n r) = some b) : maj23 (prevotes n' r) = some b := by
  obtain ⟨x, hx, hb⟩ := maj_some.mp hm
  have hf : getRound n' r = some (if x.round = R then rv' else x) := by
    rw [getRound, h, find_round_replace (hR.trans (getRound_round hrv)), ← getRound, hx]
    rfl
  refine maj_some.mpr ⟨_, hf, ?_⟩
  by_cases e : x.round = R
  · -- `x` is the entry that was replaced
    obtain rfl : r = R := (getRound_round hx).symm.trans e
    cases hx.symm.trans hrv
    rw [if_pos e]
    exact hst b hb
  · rw [if_neg e]
    exact hb

variable {timed : Prop} {off : VoteSet.Hist}

theorem Move.stable {a b : Node} (m : Move timed off a b) (hh : b.height = a.height) (r : Int) (bid : VoteSet.BlockID)
    (hm : maj23 (prevotes a r) = some bid) : maj23 (prevotes b r) = some bid := by
  cases m with
  | finalize => exact absurd hh (Int.ne_of_gt (Int.lt_succ _))
  | addRounds extra => exact maj_append extra rfl r bid hm
  | vote v ok _ rv hrv =>
    refine maj_map hrv (by split <;> rfl) rfl (fun b0 hb0 => ?_) r bid hm
    split
    · rcases VoteSet.addVote_maj23 VoteSet.repaired rv.prevotes v ok with h1 | ⟨h1, _, _⟩
      · rw [h1]; exact hb0
      · rw [h1] at hb0; cases hb0
    · exact hb0
  | peerMaj round type peer _ rv hrv =>
    refine maj_map hrv (by split <;> rfl) rfl (fun b0 hb0 => ?_) r bid hm
    split
    · rw [VoteSet.setPeerMaj23_maj23]; exact hb0
    · exact hb0
  | _ => exact hm

theorem Move.signs {a b : Node} (m : Move True off a b) :
    ∃ extra, b.signed = a.signed ++ extra ∧
      ∀ v ∈ extra, OwnJust b v ∧ v.height = a.height ∧ ∃ i : Nat, a.me = some i ∧ v.idx = (i : Int) := by
  cases m with
  | prevote _ _ _ _ _ _ _ x hx =>
    refine ⟨x, rfl, fun m hm => ⟨⟨Int.le_of_eq (hx.mem hm).1, fun ht => ?_⟩, (hx.mem hm).1, (hx.mem hm).2.2.2.2⟩⟩
    rw [(hx.mem hm).2.2.1] at ht
    cases ht
  | precommit _ _ _ ht _ hb _ x hx =>
    refine ⟨x, rfl, fun m hm => ⟨⟨Int.le_of_eq (hx.mem hm).1, fun _ _ hn => ?_⟩, (hx.mem hm).1, (hx.mem hm).2.2.2.2⟩⟩
    obtain ⟨_, hr, _, hbid, _⟩ := hx.mem hm
    rw [hbid] at hn ⊢
    rw [hr, ← ht trivial]
    exact (hb hn).1
  | _ => exact ⟨[], (List.append_nil _).symm, fun _ h => absurd h List.not_mem_nil⟩

theorem Move.me {a b : Node} (m : Move timed off a b) : b.me = a.me := by
  cases m <;> rfl

theorem Move.queued {a b : Node} (m : Move timed off a b) (v : VoteSet.Vote) (ok : Bool) (hm : Msg.vote v ok ∈ b.queue) :
    Msg.vote v ok ∈ a.queue ∨ (v ∈ b.signed ∧ ok = true) := by
  have sign : ∀ x : List VoteSet.Vote, Msg.vote v ok ∈ a.queue ++ x.map (Msg.vote · true) →
      Msg.vote v ok ∈ a.queue ∨ (v ∈ a.signed ++ x ∧ ok = true) := fun x h =>
    (List.mem_append.mp h).imp_right fun h => by
      obtain ⟨w, hw, e⟩ := List.mem_map.mp h
      cases e
      exact ⟨List.mem_append_right _ hw, rfl⟩
  cases m with
  | prevote _ _ _ _ _ _ _ x | precommit _ _ _ _ _ _ _ x => exact sign x hm
  | propose _ _ _ _ q hq => exact (List.mem_append.mp hm).elim Or.inl fun h => absurd h (hq v ok)
  | dequeue _ _ hq => exact Or.inl (hq ▸ List.mem_cons_of_mem _ hm)
  | _ => exact Or.inl hm

theorem Ext.move {a b : Node} (m : Move True off a b) : Ext a b :=
  ⟨(Le.move m).height_le, m.stable, m.signs.imp fun _ h => ⟨h.1, fun v hv => (h.2 v hv).1⟩⟩

theorem run_qj (ins : List In) : ∀ n : Node, QJ n → RunOK n ins → QJ (ins.foldl stepIn n) :=
  run_keeps_timed (fun m q => QJ.ext q (Ext.move m)) ins

theorem init_qj (cfg : Cfg) (height : Int) (vals : ValSet.ValSet) (me : Option Nat) (skip : Bool) :
    QJ (init cfg height vals me skip) := List.forall_mem_nil _

def LJ (n : Node) : Prop :=
  ∀ b, n.lockedBlock = some b → ∃ bid, maj23 (prevotes n n.lockedRound) = some bid ∧ bid.hash = b

theorem LJ.of_none {n : Node} (h : n.lockedBlock = none) : LJ n := by
  intro b hb
  rw [h] at hb
  cases hb

theorem LJ.move {a b : Node} (m : Move timed off a b) (l : LJ a) : LJ b := by
  have stable := m.stable
  cases m with
  | lock _ _ _ _ bid hm _ hlb => exact fun L hL => ⟨bid, hm, Option.some.inj (hlb.symm.trans hL)⟩
  | unlock | finalize => exact LJ.of_none rfl
  | _ => exact fun L hL => (l L hL).imp fun _ h => ⟨stable rfl _ _ h.1, h.2⟩

theorem lj_run (ins : List In) : ∀ n : Node, LJ n → LJ (ins.foldl stepIn n) := run_keeps LJ.move ins

theorem init_lj (cfg : Cfg) (height : Int) (vals : ValSet.ValSet) (me : Option Nat) (skip : Bool) :
    LJ (init cfg height vals me skip) := LJ.of_none rfl

end AnnVerif.Node
