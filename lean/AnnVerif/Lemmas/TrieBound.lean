/-
  `SmallT` (every node's encoding fits the 64-bit sizes of the RLP decoder) follows from plain
  bounds: short-node keys of at most 2^32 nibbles and values of at most 2^32 bytes. For a concrete
  trie it can be decided by evaluation (`smallTB`).
-/
import AnnVerif.Lemmas.TrieProof
namespace AnnVerif.Trie
open AnnVerif.Rlp

mutual
  /-- short-node keys of at most `K` nibbles, values of at most `V` bytes, branch nodes of at most 17 slots -/
  def Bnd (K V : Nat) : Node → Prop
    | .empty => True
    | .value v => v.length ≤ V
    | .short key c => key.length ≤ K ∧ Bnd K V c
    | .full cs => cs.length ≤ 17 ∧ BndC K V cs
  def BndC (K V : Nat) : Children → Prop
    | .nil => True
    | .cons n r => Bnd K V n ∧ BndC K V r
end

section
variable (H : Bytes → Bytes)

/-- a string of at most `n` bytes takes at most ten more for its header (`encodeStr_length`) -/
theorem str_small {b : Bytes} {n : Nat} (hb : b.length ≤ n) (hn : n ≤ 2 ^ 32) :
    smallOne (.str b) ∧ (encode (.str b)).length ≤ n + 10 := by
  have := (encodeStr_length b).2
  rw [smallOne, encode]
  exact ⟨by omega, by omega⟩

/-- 42 = 32 + 10 bounds a hash; a value takes at most `V + 10` bytes, an embedded node fewer than 32 -/
theorem ref_small (Hlen : ∀ x, (H x).length = 32) {K V : Nat} (hV : V ≤ 2 ^ 32) (c : Node) (hb : Bnd K V c)
    (hs : SmallT H c) : smallOne (ref H c) ∧ (encode (ref H c)).length ≤ V + 42 := by
  rw [ref_eq]
  split
  · exact (str_small (Nat.le_of_eq (Hlen _)) (by omega)).imp_right fun h => by omega
  · rename_i hh
    cases c with
    | empty =>
      rw [enc]
      exact (str_small (b := []) (Nat.zero_le V) hV).imp_right fun h => by omega
    | value v =>
      rw [enc]
      exact (str_small (show v.length ≤ V from hb) hV).imp_right fun h => by omega
    | short key c' => exact ⟨hs.1, by simp [hashed] at hh; omega⟩
    | full cs => exact ⟨hs.1, by simp [hashed] at hh; omega⟩

/-- seventeen references of at most 2^32 + 42 bytes fit a 64-bit size -/
theorem children_fit {n V x : Nat} (hn : n ≤ 17) (hV : V ≤ 2 ^ 32) (hx : x ≤ n * (V + 42)) : x < 2 ^ 64 := by
  have : n * (V + 42) ≤ 17 * (2 ^ 32 + 42) := Nat.mul_le_mul hn (by omega)
  omega

mutual
  theorem bnd_small (Hlen : ∀ x, (H x).length = 32) {K V : Nat} (hK : K ≤ 2 ^ 32) (hV : V ≤ 2 ^ 32) :
      ∀ n : Node, Bnd K V n → SmallT H n
    | .empty, _ => trivial
    | .value _, _ => trivial
    | .short key c, hb => by
      have hc := bnd_small Hlen hK hV c hb.2
      obtain ⟨r1, r2⟩ := ref_small H Hlen hV c hb.2 hc
      have hk := hexToCompact_length_le key
      have he := encodeStr_length (hexToCompact key)
      have hkK : key.length ≤ K := hb.1
      refine ⟨?_, hc⟩
      rw [enc_short, smallOne]
      refine ⟨?_, by rw [smallOne]; omega, r1, trivial⟩
      simp only [encodeList, List.length_append, List.length_nil, encode]
      omega
    | .full cs, hb => by
      obtain ⟨h1, h2, h3⟩ := bndc_len Hlen hK hV cs hb.2
      refine ⟨?_, h1⟩
      rw [enc_full, smallOne]
      exact ⟨children_fit hb.1 hV h3, h2⟩
  theorem bndc_len (Hlen : ∀ x, (H x).length = 32) {K V : Nat} (hK : K ≤ 2 ^ 32) (hV : V ≤ 2 ^ 32) :
      ∀ cs : Children, BndC K V cs → SmallC H cs ∧ smallItems (encChildren H cs) ∧
        (encodeList (encChildren H cs)).length ≤ cs.length * (V + 42)
    | .nil, _ => by
      rw [encChildren]; simp [SmallC, smallItems, encodeList]
    | .cons n r, hb => by
      have hn := bnd_small Hlen hK hV n hb.1
      obtain ⟨h1, h2, h3⟩ := bndc_len Hlen hK hV r hb.2
      obtain ⟨r1, r2⟩ := ref_small H Hlen hV n hb.1 hn
      rw [encChildren]
      simp only [SmallC, smallItems, encodeList, List.length_append, Children.length]
      refine ⟨⟨hn, h1⟩, ⟨r1, h2⟩, ?_⟩
      rw [Nat.add_mul, Nat.one_mul]
      omega
end

theorem bndc_small (Hlen : ∀ x, (H x).length = 32) {K V : Nat} (hK : K ≤ 2 ^ 32) (hV : V ≤ 2 ^ 32) :
      ∀ cs : Children, BndC K V cs → cs.length ≤ 17 → SmallC H cs ∧ smallItems (encChildren H cs) ∧
        (encodeList (encChildren H cs)).length < 2 ^ 64
    | cs, hb, hl => by
      obtain ⟨h1, h2, h3⟩ := bndc_len H Hlen hK hV cs hb
      exact ⟨h1, h2, children_fit hl hV h3⟩
end

/-- every terminated key the trie holds is at most `L` nibbles long, every value at most `V` bytes -/
def CB (L V : Nat) (t : Node) : Prop := ∀ r v, TermKey r → getN t r = some v → r.length ≤ L ∧ v.length ≤ V

theorem bndc_of_get {K V : Nat} : ∀ (cs : Children), (∀ i, Bnd K V (cs.get i)) → BndC K V cs
  | .nil, _ => trivial
  | .cons _ r, h => ⟨h 0, bndc_of_get r fun i => h (i + 1)⟩

/-- the keys below a node are the rests of keys of the whole trie, hence no longer than those -/
theorem cb_bnd {L V : Nat} : ∀ t, WF t → Br t → CB L V t → Bnd L V t := by
  refine wf_induction (fun _ _ => trivial) ?_ ?_ ?_
  · intro key w hk _ hc
    exact hc key w hk (getN_short_value_self hk w)
  · intro key cs hk hcs ih hb hc
    have hw : WF (.short key (.full cs)) := ⟨hk, hcs⟩
    have below : ∀ r v, TermKey r → getN (.full cs) r = some v → (key ++ r).length ≤ L ∧ v.length ≤ V :=
      fun r v hr hg => hc (key ++ r) v (tk_under hk.2 hr) (by rw [getN_short_append hw]; exact hg)
    -- the branch node is not empty: some key passes through `key`
    obtain ⟨r0, v0, hr0, hg0⟩ := witness (t := .full cs) hcs hb rfl
    have h0 := below r0 v0 hr0 hg0
    rw [List.length_append] at h0
    refine ⟨by omega, ih hb fun r v hr hg => ?_⟩
    have := below r v hr hg
    rw [List.length_append] at this
    exact ⟨by omega, this.2⟩
  · intro cs hwc ih hb hc
    have hlen := wfc_len hwc
    refine ⟨by omega, bndc_of_get cs (fun i => ?_)⟩
    by_cases h16 : i = 16
    · subst h16
      rcases slotVal_cases (wfc_val hwc) with e | ⟨w, e⟩
      · rw [e]; trivial
      · rw [e]
        exact (hc [16] w tk_term (by rw [getN_full_cons, e]; rfl)).2
    · by_cases hi : i < 16
      · refine ih i hi (brc_get cs i hb.2) fun r v hr hg => ?_
        have := hc (i :: r) v (tk_child hi hr) hg
        rw [List.length_cons] at this
        exact ⟨by omega, this.2⟩
      · rw [Children.get_of_ge cs i (by omega)]; trivial

/-! ### a decidable check for `SmallT` -/

mutual
  def smallOneB : Rlp.Item → Bool
    | .str b => decide (b.length < 2 ^ 64)
    | .list l => decide ((Rlp.encodeList l).length < 2 ^ 64) && smallItemsB l
  def smallItemsB : List Rlp.Item → Bool
    | [] => true
    | x :: t => smallOneB x && smallItemsB t
end

mutual
  theorem smallOneB_sound : ∀ x, smallOneB x = true → Rlp.smallOne x
    | .str b, h => by rw [smallOneB, decide_eq_true_eq] at h; rwa [Rlp.smallOne]
    | .list l, h => by
      rw [smallOneB, Bool.and_eq_true, decide_eq_true_eq] at h; rw [Rlp.smallOne]
      exact ⟨h.1, smallItemsB_sound l h.2⟩
  theorem smallItemsB_sound : ∀ l, smallItemsB l = true → Rlp.smallItems l
    | [], _ => by rw [Rlp.smallItems]; trivial
    | x :: t, h => by
      rw [smallItemsB, Bool.and_eq_true] at h; rw [Rlp.smallItems]
      exact ⟨smallOneB_sound x h.1, smallItemsB_sound t h.2⟩
end

section
variable (H : Bytes → Bytes)
mutual
  def smallTB : Node → Bool
    | .short key c => smallOneB (enc H (.short key c)) && smallTB c
    | .full cs => smallOneB (enc H (.full cs)) && smallCB cs
    | _ => true
  def smallCB : Children → Bool
    | .nil => true
    | .cons n r => smallTB n && smallCB r
end

mutual
  theorem smallTB_sound : ∀ n, smallTB H n = true → SmallT H n
    | .empty, _ => trivial
    | .value _, _ => trivial
    | .short key c, h => by
      rw [smallTB, Bool.and_eq_true] at h
      exact ⟨smallOneB_sound _ h.1, smallTB_sound c h.2⟩
    | .full cs, h => by
      rw [smallTB, Bool.and_eq_true] at h
      exact ⟨smallOneB_sound _ h.1, smallCB_sound cs h.2⟩
  theorem smallCB_sound : ∀ cs, smallCB H cs = true → SmallC H cs
    | .nil, _ => trivial
    | .cons n r, h => by
      rw [smallCB, Bool.and_eq_true] at h
      exact ⟨smallTB_sound n h.1, smallCB_sound r h.2⟩
end
end
end AnnVerif.Trie
