/-
  The go-wire length prefix (`WriteVarint`, `WriteByteSlice`): the big-endian digits are read back by `beVal`,
  so they determine the value; the size byte in front makes the prefix a prefix code.
  `ReadVarint` undoes `WriteVarint` on every int64 (`MinInt64` included), `ReadTime` undoes `WriteTime` on
  every whole number of milliseconds.
-/
import AnnVerif.Model.WirePrim
namespace AnnVerif

theorem beBytes_length (k n : Nat) : (beBytes k n).length = k := by
  induction k with
  | zero => rfl
  | succ k ih => simp [beBytes, ih]

theorem UInt8_ofNat_inj {a b : Nat} (ha : a < 256) (hb : b < 256)
    (h : UInt8.ofNat a = UInt8.ofNat b) : a = b := by
  rw [← UInt8.toNat_ofNat_of_lt' ha, h, UInt8.toNat_ofNat_of_lt' hb]

namespace WirePrim

theorem beVal_foldl_shift (xs : Bytes) (a : Nat) :
    xs.foldl (fun acc b => acc * 256 + b.toNat) a = a * 256 ^ xs.length + beVal xs := by
  induction xs generalizing a with
  | nil => simp [beVal]
  | cons x t ih =>
    simp only [List.foldl_cons, beVal, List.length_cons]
    rw [ih, ih (0 * 256 + x.toNat), Nat.pow_succ, Nat.zero_mul, Nat.zero_add, Nat.add_mul, Nat.mul_assoc,
      Nat.mul_comm 256, Nat.add_assoc]

theorem beVal_beBytes (k n : Nat) : beVal (beBytes k n) = n % 256 ^ k := by
  induction k with
  | zero => simp [beBytes, beVal, Nat.mod_one]
  | succ k ih =>
    simp only [beBytes, beVal, List.foldl_cons]
    rw [beVal_foldl_shift, beBytes_length, ih, Nat.zero_mul, Nat.zero_add,
      UInt8.toNat_ofNat_of_lt' (Nat.mod_lt _ (by decide)), @Nat.pow_succ 256 k, Nat.mod_mul, Nat.mul_comm, Nat.add_comm]

theorem beVal_append (xs : Bytes) (b : UInt8) : beVal (xs ++ [b]) = beVal xs * 256 + b.toNat := by
  unfold beVal; simp [List.foldl_append]

/-- the three things `ReadVarint` and `ReadTime` do with `k` big-endian bytes in front of `rest` -/
theorem beVal_take_beBytes (k n : Nat) (rest : Bytes) :
    beVal ((beBytes k n ++ rest).take k) = n % 256 ^ k ∧ (beBytes k n ++ rest).drop k = rest ∧
      ¬ (beBytes k n ++ rest).length < k := by
  rw [List.take_left' (beBytes_length k n), List.drop_left' (beBytes_length k n), beVal_beBytes,
    List.length_append, beBytes_length]
  exact ⟨rfl, rfl, by omega⟩

end WirePrim

theorem beBytes_inj (k a c : Nat) (ha : a < 256 ^ k) (hc : c < 256 ^ k)
    (h : beBytes k a = beBytes k c) : a = c := by
  have := congrArg WirePrim.beVal h
  rwa [WirePrim.beVal_beBytes, WirePrim.beVal_beBytes, Nat.mod_eq_of_lt ha, Nat.mod_eq_of_lt hc] at this

-- `uvarintSize` is a chain of thresholds; `iteInduction` walks it branch by branch
theorem uvarintSize_le (n : Nat) : uvarintSize n ≤ 8 := by
  unfold uvarintSize
  repeat' refine iteInduction (motive := (· ≤ 8)) (fun _ => by decide) (fun _ => ?_)
  decide

theorem uvarintSize_bound (n : Nat) (hn : n < 2 ^ 64) : n < 256 ^ uvarintSize n := by
  unfold uvarintSize
  refine iteInduction (motive := (n < 256 ^ ·)) (fun h => by rw [h]; exact Nat.one_pos) (fun _ => ?_)
  -- the branch taken at threshold `2 ^ (8 * k)` answers `k`, and `2 ^ (8 * k)` is `256 ^ k` by evaluation
  repeat' refine iteInduction (motive := (n < 256 ^ ·)) (fun h => h) (fun _ => ?_)
  exact hn

theorem uvarintSize_pos (n : Nat) (h : 0 < n) : 0 < uvarintSize n := by
  unfold uvarintSize
  refine iteInduction (motive := (0 < ·)) (fun h0 => absurd h0 (Nat.ne_of_gt h)) (fun _ => ?_)
  repeat' refine iteInduction (motive := (0 < ·)) (fun _ => by decide) (fun _ => ?_)
  decide

/-- A size byte (the marks `o`, `o'` are the sign: 0 or 0xF0) followed by that many big-endian bytes is a
    prefix code: the size byte fixes the mark and the length of the digits, the digits fix the value. -/
theorem uvarint_append_inj (o o' a c : Nat) (X Y : Bytes) (ho : o = 0 ∨ o = 0xF0) (ho' : o' = 0 ∨ o' = 0xF0)
    (ha : a < 2 ^ 64) (hc : c < 2 ^ 64)
    (h : UInt8.ofNat (uvarintSize a + o) :: beBytes (uvarintSize a) a ++ X =
      UInt8.ofNat (uvarintSize c + o') :: beBytes (uvarintSize c) c ++ Y) : o = o' ∧ a = c ∧ X = Y := by
  simp only [List.cons_append, List.cons.injEq] at h
  obtain ⟨hh, ht⟩ := h
  have ha8 := uvarintSize_le a
  have hc8 := uvarintSize_le c
  have hs : o = o' ∧ uvarintSize a = uvarintSize c := by
    have := UInt8_ofNat_inj (by omega) (by omega) hh
    omega
  rw [← hs.2] at ht
  have hl := List.append_inj ht (by rw [beBytes_length, beBytes_length])
  exact ⟨hs.1, beBytes_inj (uvarintSize a) a c (uvarintSize_bound a ha) (hs.2 ▸ uvarintSize_bound c hc) hl.1, hl.2⟩

theorem wireVarintNat_append_inj (a c : Nat) (X Y : Bytes) (ha : a < 2 ^ 64) (hc : c < 2 ^ 64)
    (h : wireVarintNat a ++ X = wireVarintNat c ++ Y) : a = c ∧ X = Y :=
  (uvarint_append_inj 0 0 a c X Y (.inl rfl) (.inl rfl) ha hc h).2

theorem wireByteSlice_append_inj (a c X Y : Bytes) (ha : a.length < 2 ^ 64) (hc : c.length < 2 ^ 64)
    (h : wireByteSlice a ++ X = wireByteSlice c ++ Y) : a = c ∧ X = Y := by
  unfold wireByteSlice at h
  rw [List.append_assoc, List.append_assoc] at h
  obtain ⟨hl, hr⟩ := wireVarintNat_append_inj _ _ _ _ ha hc h
  exact List.append_inj hr hl

theorem wireByteSlice_inj (a c : Bytes) (ha : a.length < 2 ^ 64) (hc : c.length < 2 ^ 64)
    (h : wireByteSlice a = wireByteSlice c) : a = c :=
  (wireByteSlice_append_inj a c [] [] ha hc (by simpa using h)).1

namespace WirePrim

/-- `WriteVarint` in one shape for both signs: the sign is the high nibble of the size byte -/
theorem writeVarint_eq (i : Int) : writeVarint i =
    UInt8.ofNat (uvarintSize i.natAbs + if i < 0 then 0xF0 else 0) :: beBytes (uvarintSize i.natAbs) i.natAbs := by
  unfold writeVarint
  by_cases hi : i < 0
  · rw [if_pos hi, if_pos hi, show (-i).toNat = i.natAbs by omega]
  · rw [if_neg hi, if_neg hi, show i.toNat = i.natAbs by omega]
    rfl

theorem writeVarint_append_inj (a c : Int) (X Y : Bytes) (ha : a.natAbs < 2 ^ 64) (hc : c.natAbs < 2 ^ 64)
    (h : writeVarint a ++ X = writeVarint c ++ Y) : a = c ∧ X = Y := by
  rw [writeVarint_eq, writeVarint_eq] at h
  -- each mark with the sign it stands for: equal marks and equal absolute values make equal values
  have ma := Lean.Omega.ite_disjunction (P := a < 0) (a := 0xF0) (b := 0)
  have mc := Lean.Omega.ite_disjunction (P := c < 0) (a := 0xF0) (b := 0)
  obtain ⟨hsign, habs, hxy⟩ :=
    uvarint_append_inj _ _ _ _ X Y (ma.symm.imp And.right And.right) (mc.symm.imp And.right And.right) ha hc h
  exact ⟨by omega, hxy⟩

theorem toInt64_of_lt (u : Nat) (h : u < 2 ^ 63) : toInt64 u = u := by
  unfold toInt64
  rw [Nat.mod_eq_of_lt (by omega), if_neg (by omega)]

theorem toInt64_emod (v : Int) (h0 : -2 ^ 63 ≤ v) (h1 : v < 2 ^ 63) :
    toInt64 (v % ((2 ^ 64 : Nat) : Int)).toNat = v := by
  unfold toInt64
  simp only [Nat.mod_eq_of_lt (show (v % ((2 ^ 64 : Nat) : Int)).toNat < 2 ^ 64 by omega)]
  split <;> omega

/-- `ReadVarint` negates in 64 bits what `WriteVarint` negated; `m = 2 ^ 63` is `-MinInt64`, which
    wraps to itself both times -/
theorem toInt64_neg_toInt64 (m : Nat) (h : m ≤ 2 ^ 63) :
    toInt64 ((-toInt64 m) % ((2 ^ 64 : Nat) : Int)).toNat = -(m : Int) := by
  by_cases hm : m = 2 ^ 63
  · subst hm; decide
  · rw [toInt64_of_lt m (by omega), toInt64_emod _ (by omega) (by omega)]

theorem readVarint_sized (o m : Nat) (rest : Bytes) (ho : o = 0 ∨ o = 0xF0) (hm : 0 < m) (hm' : m < 2 ^ 64) :
    readVarint (UInt8.ofNat (uvarintSize m + o) :: (beBytes (uvarintSize m) m ++ rest)) =
      .ok (if o = 0xF0 then toInt64 ((-toInt64 m) % ((2 ^ 64 : Nat) : Int)).toNat else toInt64 m) rest := by
  have hs := uvarintSize_le m
  -- how `ReadVarint` takes a size byte apart: the high nibble 0xF marks a negative value, the low one is then the size
  have hsb := UInt8.toNat_ofNat_of_lt' (show uvarintSize m + o < 256 by omega)
  have hneg : (uvarintSize m + o) / 16 = 0xF ↔ o = 0xF0 := by omega
  have hsize : (if o = 0xF0 then (uvarintSize m + o) % 16 else uvarintSize m + o) = uvarintSize m := by
    rcases ho with rfl | rfl
    · rfl
    · rw [if_pos rfl]
      omega
  have hp := uvarintSize_pos m hm
  obtain ⟨ht, hd, hl⟩ := beVal_take_beBytes (uvarintSize m) m rest
  rw [Nat.mod_eq_of_lt (uvarintSize_bound m hm')] at ht
  simp only [readVarint, hsb, hneg, hsize, if_neg (Nat.not_lt.2 hs), if_neg (Nat.ne_of_gt hp), if_neg hl, ht, hd]

theorem readVarint_writeVarint (i : Int) (h0 : -2 ^ 63 ≤ i) (h1 : i < 2 ^ 63) (rest : Bytes) :
    readVarint (writeVarint i ++ rest) = .ok i rest := by
  by_cases hz : i = 0
  · subst hz
    rfl
  have mark := Lean.Omega.ite_disjunction (P := i < 0) (a := 0xF0) (b := 0)
  rw [writeVarint_eq, List.cons_append,
    readVarint_sized _ _ rest (mark.symm.imp And.right And.right) (by omega) (by omega)]
  rcases mark with ⟨hneg, e⟩ | ⟨hpos, e⟩
  · rw [e, if_pos rfl, toInt64_neg_toInt64 _ (by omega)]
    congr 1
    omega
  · rw [e, if_neg (by decide), toInt64_of_lt _ (by omega)]
    congr 1
    omega

theorem readVarint_total (inp : Bytes) : readVarint inp ≠ .panic := by
  unfold readVarint
  cases inp with
  | nil => nofun
  | cons sb rest =>
    dsimp only
    repeat' refine iteInduction (motive := (· ≠ R.panic)) (fun _ => ?_) (fun _ => ?_)
    all_goals nofun

/-- The two ways `ReadByteSlice` ends: with an error before it allocates, or, having allocated a length that
    passed the limit test (if there is a limit), with an error or the slice. -/
theorem readByteSlice_cases {motive : R Bytes × Nat → Prop} (lmt n0 : Nat) (inp : Bytes)
    (early : ∀ e, motive (.err e, 0))
    (late : ∀ (len : Int) (r : R Bytes), (lmt ≠ 0 → len.toNat ≤ lmt) → r ≠ .panic → motive (r, len.toNat)) :
    motive (readByteSlice lmt n0 inp) := by
  unfold readByteSlice
  cases h : readVarint inp with
  | panic => exact absurd h (readVarint_total inp)
  | err e => exact early e
  | ok len rest =>
    dsimp only
    refine iteInduction (fun _ => early _) (fun _ => ?_)
    refine iteInduction (fun _ => early _) (fun hlim => ?_)
    have hle (hl : lmt ≠ 0) : len.toNat ≤ lmt :=
      Int.toNat_le.2 (Int.le_trans (Int.le_max_left ..) (Int.not_lt.1 fun hh => hlim ⟨hl, hh⟩))
    exact iteInduction (fun _ => late len _ hle nofun) (fun _ => late len _ hle nofun)

theorem readTime_writeTime (cfg : Cfg) (ms : Int) (h0 : -2 ^ 63 ≤ ms * 1000000) (h1 : ms * 1000000 < 2 ^ 63)
    (rest : Bytes) : readTime cfg (writeTime (ms * 1000000) ++ rest) = .ok (ms * 1000000) rest := by
  -- a whole number of milliseconds is written as it is
  have hw : writeTime (ms * 1000000) = beBytes 8 ((ms * 1000000) % ((2 ^ 64 : Nat) : Int)).toNat := by
    rw [writeTime, Int.mul_tdiv_cancel ms (by decide)]
  obtain ⟨ht, hd, hl⟩ := beVal_take_beBytes 8 ((ms * 1000000) % ((2 ^ 64 : Nat) : Int)).toNat rest
  rw [Nat.mod_eq_of_lt (by omega)] at ht
  rw [readTime, hw, if_neg hl]
  dsimp only
  rw [ht, hd, toInt64_emod _ h0 h1, if_neg (not_not_intro (Int.mul_tmod_left ..))]

end WirePrim
end AnnVerif
