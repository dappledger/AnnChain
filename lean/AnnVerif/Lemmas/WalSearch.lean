/-
  Correctness of the (repaired) marker search of the WAL file group: over any layout of files whose
  markers are in ascending order, the binary search over file indices finds the marker of a height
  that is there, however the group was rotated (R4).
-/
import AnnVerif.Model.Wal
namespace AnnVerif.Wal

def Sorted (marks : Marks) : Prop :=
  marks.Pairwise (fun a b => a.file ≤ b.file ∧ a.height < b.height)

theorem sorted_mem {marks : Marks} (hs : Sorted marks) {a b : Mark} (ha : a ∈ marks) (hb : b ∈ marks) :
    (a.height < b.height → a.file ≤ b.file) ∧ (a.height = b.height → a = b) :=
  -- `a` is `b`, or stands before it (heights rise: the second premise is false), or after it (both are)
  List.Pairwise.forall_of_forall_of_flip
    (R := fun a b : Mark => (a.height < b.height → a.file ≤ b.file) ∧ (a.height = b.height → a = b))
    (fun _ _ => ⟨fun _ => Nat.le_refl _, fun _ => rfl⟩)
    (hs.imp fun h => ⟨fun _ => h.1, by omega⟩)
    (hs.imp fun h => ⟨by omega, by omega⟩) ha hb

theorem scanUntil_found : ∀ (l : List Mark) (m : Mark),
    l.Pairwise (fun a b => a.height < b.height) → m ∈ l → scanUntil l m.height = .found m := by
  intro l
  induction l with
  | nil => intro m _ hm; cases hm
  | cons x t ih =>
    intro m hp hm
    rw [List.pairwise_cons] at hp
    unfold scanUntil
    rcases List.mem_cons.mp hm with rfl | hm'
    · simp
    · rw [if_pos (hp.1 m hm')]
      exact ih m hp.2 hm'

theorem scanFrom_found {marks : Marks} (hs : Sorted marks) {m : Mark} (hm : m ∈ marks) (i : Nat)
    (hi : i ≤ m.file) : scanUntil (marks.filter (fun p => i ≤ p.file)) m.height = .found m :=
  scanUntil_found _ _ ((hs.sublist List.filter_sublist).imp fun h => h.2)
    (List.mem_filter.mpr ⟨hm, by simpa using hi⟩)

theorem scanNext_none {marks : Marks} {i : Nat} (h : scanNext marks i = none) {m : Mark}
    (hm : m ∈ marks) : m.file < i := by
  simpa using List.find?_eq_none.mp h m hm

/-- the first marker in file `i` or later: every marker of a lower height was written before it,
    so stands in an earlier file than `i` -/
theorem scanNext_some {marks : Marks} (hs : Sorted marks) {i : Nat} {q : Mark}
    (h : scanNext marks i = some q) :
    q ∈ marks ∧ i ≤ q.file ∧ ∀ m ∈ marks, m.height < q.height → m.file < i := by
  obtain ⟨hq, as, bs, hsplit, hfirst⟩ := List.find?_eq_some_iff_append.mp h
  refine ⟨by simp [hsplit], by simpa using hq, fun m hm hlt => ?_⟩
  rw [hsplit] at hm hs
  rcases List.mem_append.mp hm with hm | hm
  · simpa using hfirst m hm
  · rcases List.mem_cons.mp hm with rfl | hm
    · omega
    · have := ((List.pairwise_cons.mp (List.pairwise_append.mp hs).2.1).1 m hm).2
      omega

theorem searchLoop_found (marks : Marks) (hs : Sorted marks) (m : Mark) (hm : m ∈ marks) :
    ∀ (fuel mn mx : Nat), mx - mn < fuel → mn ≤ m.file → m.file ≤ mx →
      searchLoop true marks m.height fuel mn mx = .found m := by
  intro fuel
  induction fuel with
  | zero => intro mn mx h; cases h
  | succ fuel ih =>
    intro mn mx hf h1 h2
    unfold searchLoop
    by_cases he : mn = mx
    · rw [if_pos he]
      exact scanFrom_found hs hm mx (he ▸ h1)
    rw [if_neg he]
    simp only
    -- the probe `cur` lies in (mn, mx]; both halves of the window are smaller than the window
    have hc : mn < (mn + mx + 1) / 2 ∧ (mn + mx + 1) / 2 ≤ mx := by omega
    generalize (mn + mx + 1) / 2 = cur at hc ⊢
    have hlo : cur - 1 - mn < fuel := by omega
    cases hsn : scanNext marks cur with
    | none => exact ih mn _ hlo h1 (Nat.le_sub_one_of_lt (scanNext_none hsn hm))
    | some q =>
      obtain ⟨hqm, hq, hbelow⟩ := scanNext_some hs hsn
      simp only
      by_cases c1 : q.height < m.height
      · rw [if_pos c1]
        exact ih q.file mx (by omega) ((sorted_mem hs hqm hm).1 c1) h2
      rw [if_neg c1]
      by_cases c2 : q.height = m.height
      · rw [if_pos c2]
        cases (sorted_mem hs hqm hm).2 c2
        exact scanFrom_found hs hm _ (Nat.le_refl _)
      · rw [if_neg c2]
        exact ih mn _ hlo h1 (Nat.le_sub_one_of_lt (hbelow m hm (by omega)))

/-- R4: `Group.Search` (repaired) finds the marker of every height present in the group -/
theorem search_finds (marks : Marks) (nFiles : Nat) (hs : Sorted marks) (m : Mark) (hm : m ∈ marks)
    (hfile : m.file < nFiles) : search true marks nFiles m.height = .found m :=
  searchLoop_found marks hs m hm _ 0 _ (by omega) (by omega) (by omega)

end AnnVerif.Wal
