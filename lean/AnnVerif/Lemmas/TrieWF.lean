/-
  The invariant of the Merkle Patricia trie model and what a trie that satisfies it reads: keys as
  `keybytesToHex` makes them (`TermKey`), the node shapes trie.go maintains (`WF`: short nodes have
  non-empty keys and end in a value or a branch, values sit only where a key ends; `Br`: every branch
  has two children), induction over such tries (`wf_induction`), `get` freed of its fuel (`getN`), and a
  key that a trie which is not empty holds (`witness`).
-/
import AnnVerif.Model.Trie
import AnnVerif.Lemmas.Logic
namespace AnnVerif.Trie
universe u

def Children.length : Children → Nat
  | .nil => 0
  | .cons _ r => r.length + 1

theorem Children.get_set : ∀ (cs : Children) (i j : Nat) (x : Node),
    (cs.set i x).get j = if i = j ∧ i < cs.length then x else cs.get j
  | .nil, _, _, _ => by simp [Children.set, Children.get, Children.length]
  | .cons _ _, 0, 0, _ => by simp [Children.set, Children.get, Children.length]
  | .cons _ _, 0, _ + 1, _ => by simp [Children.set, Children.get]
  | .cons _ _, _ + 1, 0, _ => by simp [Children.set, Children.get]
  | .cons _ r, i + 1, j + 1, x => by
    simp only [Children.set, Children.get, Children.length, Children.get_set r i j x, Nat.add_right_cancel_iff,
      Nat.add_lt_add_iff_right]

theorem Children.get_set_same {cs : Children} {i : Nat} {x : Node} (h : i < cs.length) : (cs.set i x).get i = x := by
  rw [Children.get_set, if_pos ⟨rfl, h⟩]

theorem Children.get_set_other {cs : Children} {i j : Nat} {x : Node} (h : i ≠ j) : (cs.set i x).get j = cs.get j := by
  rw [Children.get_set, if_neg (fun e => h e.1)]

theorem Children.length_set : ∀ (cs : Children) (i : Nat) (x : Node), (cs.set i x).length = cs.length
  | .nil, _, _ => rfl
  | .cons _ _, 0, _ => rfl
  | .cons _ r, i + 1, x => by simp only [Children.set, Children.length, Children.length_set r i x]

theorem Children.length_replicate : ∀ n, (Children.replicate n).length = n
  | 0 => rfl
  | n + 1 => by simp only [Children.replicate, Children.length, Children.length_replicate n]

theorem Children.get_replicate : ∀ n i, (Children.replicate n).get i = .empty
  | 0, _ => rfl
  | _ + 1, 0 => rfl
  | n + 1, i + 1 => by simp only [Children.replicate, Children.get, Children.get_replicate n i]

theorem Children.get_of_ge : ∀ (cs : Children) (i : Nat), cs.length ≤ i → cs.get i = .empty
  | .nil, _, _ => rfl
  | .cons _ _, 0, h => absurd h (Nat.not_succ_le_zero _)
  | .cons _ r, i + 1, h => Children.get_of_ge r i (Nat.le_of_succ_le_succ h)

theorem empty_or (n : Node) : n = .empty ∨ n.isEmpty = false := by
  cases n <;> simp [Node.isEmpty]

theorem get_nonempty_lt {cs : Children} {i : Nat} (h : (cs.get i).isEmpty = false) : i < cs.length :=
  Nat.lt_of_not_le fun hl => by rw [Children.get_of_ge cs i hl] at h; cases h

/-! ### keys: nibbles below 16, closed by the terminator 16 (what `keybytesToHex` produces) -/

def NK (k : Key) : Prop := ∀ x ∈ k, x < 16
def TermKey (k : Key) : Prop := ∃ pre, k = pre ++ [16] ∧ NK pre
def ExtKey (k : Key) : Prop := k ≠ [] ∧ NK k

theorem nk_nil : NK [] := fun _ hx => absurd hx List.not_mem_nil
theorem nk_cons {a : Nat} {r : Key} : NK (a :: r) ↔ a < 16 ∧ NK r := List.forall_mem_cons
theorem nk_append {p q : Key} : NK (p ++ q) ↔ NK p ∧ NK q := List.forall_mem_append

theorem tk_term : TermKey [16] := ⟨[], rfl, nk_nil⟩

theorem tk_ne_nil {k : Key} (h : TermKey k) : k ≠ [] := by
  obtain ⟨pre, rfl, _⟩ := h; simp

theorem tk_exists_cons {k : Key} (h : TermKey k) : ∃ i r, k = i :: r :=
  List.exists_cons_of_ne_nil (tk_ne_nil h)

theorem tk_cons {a : Nat} {r : Key} : TermKey (a :: r) ↔ (a = 16 ∧ r = []) ∨ (a < 16 ∧ TermKey r) := by
  constructor
  · rintro ⟨pre, he, hn⟩
    cases pre with
    | nil => simp at he; exact Or.inl he
    | cons x p =>
      simp at he
      obtain ⟨rfl, rfl⟩ := he
      exact Or.inr ⟨(nk_cons.mp hn).1, p, rfl, (nk_cons.mp hn).2⟩
  · rintro (⟨rfl, rfl⟩ | ⟨ha, pre, rfl, hn⟩)
    · exact tk_term
    · exact ⟨a :: pre, rfl, nk_cons.mpr ⟨ha, hn⟩⟩

theorem tk_append {p q : Key} (hq : q ≠ []) : TermKey (p ++ q) ↔ NK p ∧ TermKey q := by
  induction p with
  | nil => simp [nk_nil]
  | cons a p ih =>
    rw [List.cons_append, tk_cons, nk_cons, ih]
    constructor
    · rintro (⟨_, h⟩ | ⟨ha, hp, hq'⟩)
      · simp [hq] at h
      · exact ⟨⟨ha, hp⟩, hq'⟩
    · rintro ⟨⟨ha, hp⟩, hq'⟩; exact Or.inr ⟨ha, hp, hq'⟩

theorem nk_not_tk {k : Key} (h : NK k) : ¬ TermKey k := by
  rintro ⟨pre, rfl, _⟩
  have := h 16 (by simp)
  omega

theorem tk_prefix_eq {a b : Key} (ha : TermKey a) (hb : TermKey b) (h : a <+: b) : a = b := by
  obtain ⟨s, rfl⟩ := h
  by_cases hs : s = []
  · rw [hs, List.append_nil]
  · exact absurd ha (nk_not_tk ((tk_append hs).mp hb).1)

theorem tk_append_nil {key rest : Key} (hkey : TermKey key) (hk : TermKey (key ++ rest)) : rest = [] :=
  List.append_right_eq_self.mp (tk_prefix_eq hkey hk (List.prefix_append _ _)).symm

theorem tk_rest {key rest : Key} (hk : TermKey (key ++ rest)) (hkey : NK key) : TermKey rest := by
  by_cases hr : rest = []
  · subst hr; simp at hk; exact absurd hk (nk_not_tk hkey)
  · exact ((tk_append hr).mp hk).2

theorem tk_under {p r : Key} (hp : NK p) (hr : TermKey r) : TermKey (p ++ r) :=
  (tk_append (tk_ne_nil hr)).mpr ⟨hp, hr⟩

theorem tk_child {i : Nat} {r : Key} (hi : i < 16) (hr : TermKey r) : TermKey (i :: r) :=
  tk_cons.mpr (Or.inr ⟨hi, hr⟩)

/-- the nibbles of a byte string, high nibble first: what `keybytesToHex` puts in front of the terminator
    and `compactToHex` spreads the packed bytes into -/
def unpackBytes (bs : Bytes) : List Nat := (bs.map fun b => [b.toNat / 16, b.toNat % 16]).flatten

theorem unpackBytes_cons (x : UInt8) (t : Bytes) :
    unpackBytes (x :: t) = x.toNat / 16 :: x.toNat % 16 :: unpackBytes t := rfl

theorem nk_unpackBytes : ∀ bs : Bytes, NK (unpackBytes bs)
  | [] => nk_nil
  | x :: t => by
    have := x.toNat_lt
    exact nk_cons.mpr ⟨by omega, nk_cons.mpr ⟨Nat.mod_lt _ (by decide), nk_unpackBytes t⟩⟩

theorem unpackBytes_length : ∀ bs : Bytes, (unpackBytes bs).length = 2 * bs.length
  | [] => rfl
  | x :: t => by
    rw [unpackBytes_cons, List.length_cons, List.length_cons, List.length_cons, unpackBytes_length t]
    omega

theorem unpackBytes_inj : ∀ {a b : Bytes}, unpackBytes a = unpackBytes b → a = b
  | [], [], _ => rfl
  | [], _ :: _, h => by cases h
  | _ :: _, [], h => by cases h
  | x :: t, y :: r, h => by
    rw [unpackBytes_cons, unpackBytes_cons] at h
    injection h with h1 h
    injection h with h2 h
    have d1 := Nat.div_add_mod x.toNat 16
    have d2 := Nat.div_add_mod y.toNat 16
    rw [UInt8.toNat_inj.mp (show x.toNat = y.toNat by omega), unpackBytes_inj h]

theorem tk_keybytesToHex (b : Bytes) : TermKey (keybytesToHex b) := ⟨unpackBytes b, rfl, nk_unpackBytes b⟩

theorem keybytesToHex_length (q : Bytes) : (keybytesToHex q).length = 2 * q.length + 1 := by
  rw [← unpackBytes_length]
  exact List.length_append

theorem keybytesToHex_inj {a b : Bytes} (h : keybytesToHex a = keybytesToHex b) : a = b :=
  unpackBytes_inj (List.append_cancel_right h)

/-- how a key `k` meets the key of a short node: it runs through it; ends inside it (no terminated key
    does, `no_strict_prefix`); parts from it at a nibble -/
theorem key_split : ∀ (k key : Key),
    (∃ rest, k = key ++ rest) ∨ (∃ b key1, key = k ++ b :: key1) ∨
    (∃ p a k1 b key1, a ≠ b ∧ k = p ++ a :: k1 ∧ key = p ++ b :: key1)
  | k, [] => Or.inl ⟨k, rfl⟩
  | [], b :: key1 => Or.inr (Or.inl ⟨b, key1, rfl⟩)
  | a :: k, b :: key => by
    by_cases hab : a = b
    · subst hab
      rcases key_split k key with ⟨rest, rfl⟩ | ⟨b, key1, rfl⟩ | ⟨p, x, k1, y, key1, hxy, rfl, rfl⟩
      · exact Or.inl ⟨rest, rfl⟩
      · exact Or.inr (Or.inl ⟨b, key1, rfl⟩)
      · exact Or.inr (Or.inr ⟨a :: p, x, k1, y, key1, hxy, rfl, rfl⟩)
    · exact Or.inr (Or.inr ⟨[], a, k, b, key, hab, rfl, rfl⟩)

/-- the test `get`, `proveBelow` and the verifier's `walk` make at a short node is a prefix test -/
theorem prefix_test {α : Sort u} (key k : Key) (x y : α) :
    (if k.length < key.length ∨ k.take key.length ≠ key then x else y) = if key <+: k then y else x := by
  by_cases hp : key <+: k
  · have hl := hp.length_le
    have ht := (List.prefix_iff_eq_take.mp hp).symm
    rw [if_pos hp, if_neg]
    rintro (h | h)
    · omega
    · exact h ht
  · rw [if_neg hp, if_pos (Or.inr fun ht => hp (List.prefix_iff_eq_take.mpr ht.symm))]

def SlotVal : Node → Prop
  | .empty => True
  | .value _ => True
  | _ => False

mutual
  /-- a node at a position where at least one nibble of every key is still to come -/
  def WF : Node → Prop
    | .empty => True
    | .value _ => False
    | .short key (.value _) => TermKey key
    | .short key (.full cs) => ExtKey key ∧ WFC cs 0
    | .short _ _ => False
    | .full cs => WFC cs 0
  def WFC : Children → Nat → Prop
    | .nil, i => i = 17
    | .cons n r, i => (if i = 16 then SlotVal n else WF n) ∧ WFC r (i + 1)
end

theorem wf_empty : WF .empty := trivial
theorem wf_leaf {key : Key} {w : Bytes} : WF (.short key (.value w)) ↔ TermKey key := Iff.rfl
theorem wf_ext {key : Key} {cs : Children} : WF (.short key (.full cs)) ↔ ExtKey key ∧ WFC cs 0 := Iff.rfl
theorem wf_full {cs : Children} : WF (.full cs) ↔ WFC cs 0 := Iff.rfl

theorem slotVal_cases {c : Node} (h : SlotVal c) : c = .empty ∨ ∃ w, c = .value w := by
  cases c with
  | empty => exact Or.inl rfl
  | value w => exact Or.inr ⟨w, rfl⟩
  | short _ _ => exact h.elim
  | full _ => exact h.elim

/-- `WFC`'s clause for the child in slot `p`, the same by definition (`wfc_get`, `wfc_set`). It cannot stand
    before `WFC`, which is defined together with the `WF` it mentions. -/
def slotOK (p : Nat) (x : Node) : Prop := if p = 16 then SlotVal x else WF x

theorem slotOK_val {x : Node} : slotOK 16 x ↔ SlotVal x := by rw [slotOK, if_pos rfl]
theorem slotOK_wf {p : Nat} {x : Node} (h : p ≠ 16) : slotOK p x ↔ WF x := by rw [slotOK, if_neg h]
theorem slotOK_empty (p : Nat) : slotOK p .empty := by unfold slotOK; split <;> trivial

def WFv (t : Node) : Prop := WF t ∨ ∃ v, t = .value v

-- `WFC cs j` speaks of the children from slot `j` on, as the recursion needs it; a branch node is `WFC cs 0`
theorem wfc_length : ∀ (cs : Children) (j : Nat), WFC cs j → cs.length + j = 17
  | .nil, _, h => (Nat.zero_add _).trans h
  | .cons _ r, j, h => by
    have := wfc_length r (j + 1) h.2
    simp [Children.length]; omega

theorem wfc_get : ∀ (cs : Children) (j i : Nat), WFC cs j → slotOK (j + i) (cs.get i)
  | .nil, _, _, _ => slotOK_empty _
  | .cons _ _, _, 0, h => h.1
  | .cons _ r, j, i + 1, h => by
    have := wfc_get r (j + 1) i h.2
    rwa [show j + 1 + i = j + (i + 1) by omega] at this

theorem wfc_set : ∀ (cs : Children) (j i : Nat) (x : Node), WFC cs j → slotOK (j + i) x → WFC (cs.set i x) j
  | .nil, _, _, _, h, _ => h
  | .cons _ _, _, 0, _, h, hx => ⟨hx, h.2⟩
  | .cons _ r, j, i + 1, x, h, hx =>
    ⟨h.1, wfc_set r (j + 1) i x h.2 (by rwa [show j + 1 + i = j + (i + 1) by omega])⟩

theorem wfc_replicate : ∀ (n j : Nat), n + j = 17 → WFC (Children.replicate n) j
  | 0, j, h => by simp only [Children.replicate, WFC]; omega
  | n + 1, j, h => by
    simp only [Children.replicate, WFC]
    exact ⟨slotOK_empty j, wfc_replicate n (j + 1) (by omega)⟩

theorem wfc_slot {cs : Children} (h : WFC cs 0) (i : Nat) : slotOK i (cs.get i) := by
  simpa using wfc_get cs 0 i h

theorem wfc_len {cs : Children} (h : WFC cs 0) : cs.length = 17 := wfc_length cs 0 h

theorem wfc_val {cs : Children} (h : WFC cs 0) : SlotVal (cs.get 16) := slotOK_val.mp (wfc_slot h 16)

theorem wfc_sub {cs : Children} (h : WFC cs 0) {i : Nat} (hi : i ≠ 16) : WF (cs.get i) := (slotOK_wf hi).mp (wfc_slot h i)

theorem wfc_slot_set {cs : Children} (h : WFC cs 0) {i : Nat} {x : Node} (hx : slotOK i x) : WFC (cs.set i x) 0 :=
  wfc_set cs 0 i x h (by simpa using hx)

theorem wfc_child {cs : Children} (hw : WFC cs 0) {i : Nat} {r : Key} (hk : TermKey (i :: r)) :
    i < cs.length ∧ ((i = 16 ∧ r = [] ∧ SlotVal (cs.get 16)) ∨ (i < 16 ∧ TermKey r ∧ WF (cs.get i))) := by
  have hlen := wfc_len hw
  rcases tk_cons.mp hk with ⟨rfl, rfl⟩ | ⟨hi, hr⟩
  · exact ⟨by omega, Or.inl ⟨rfl, rfl, wfc_val hw⟩⟩
  · exact ⟨by omega, Or.inr ⟨hi, hr, wfc_sub hw (by omega)⟩⟩

theorem Children.ext' : ∀ (a b : Children), a.length = b.length → (∀ i, a.get i = b.get i) → a = b
  | .nil, .nil, _, _ => rfl
  | .nil, .cons _ _, h, _ => by cases h
  | .cons _ _, .nil, h, _ => by cases h
  | .cons n r, .cons n' r', h, hg => by
    rw [show n = n' from hg 0, Children.ext' r r' (Nat.succ.inj h) fun i => hg (i + 1)]

theorem full_ext {a b : Children} (ha : WFC a 0) (hb : WFC b 0)
    (hv : SlotVal (a.get 16) → SlotVal (b.get 16) → a.get 16 = b.get 16)
    (hc : ∀ i, i < 16 → WF (a.get i) → WF (b.get i) → a.get i = b.get i) : a = b := by
  have la := wfc_len ha
  have lb := wfc_len hb
  refine Children.ext' a b (by omega) (fun i => ?_)
  by_cases h16 : i = 16
  · subst h16
    exact hv (wfc_val ha) (wfc_val hb)
  · by_cases hi : i < 16
    · exact hc i hi (wfc_sub ha h16) (wfc_sub hb h16)
    · rw [Children.get_of_ge a i (by omega), Children.get_of_ge b i (by omega)]

theorem wf_short {key : Key} {c : Node} (h : WF (.short key c)) :
    (TermKey key ∧ ∃ v, c = .value v) ∨ (ExtKey key ∧ ∃ cs, c = .full cs ∧ WFC cs 0) := by
  cases c with
  | empty => exact h.elim
  | value v => exact Or.inl ⟨h, v, rfl⟩
  | short _ _ => exact h.elim
  | full cs => exact Or.inr ⟨h.1, cs, rfl, h.2⟩

theorem wf_short_key {key : Key} {c : Node} (h : WF (.short key c)) : TermKey key ∨ ExtKey key :=
  (wf_short h).imp And.left And.left

theorem wf_short_key_ne {key : Key} {c : Node} (h : WF (.short key c)) : key ≠ [] :=
  (wf_short_key h).elim tk_ne_nil And.left

theorem wf_short_child {key : Key} {c : Node} (h : WF (.short key c)) : WFv c := by
  rcases wf_short h with ⟨_, v, rfl⟩ | ⟨_, cs, rfl, hc⟩
  · exact Or.inr ⟨v, rfl⟩
  · exact Or.inl hc

theorem wfv_of_slot {p : Nat} {x : Node} (h : slotOK p x) : WFv x := by
  by_cases h16 : p = 16
  · subst h16
    rcases slotVal_cases (slotOK_val.mp h) with rfl | ⟨v, rfl⟩
    · exact Or.inl wf_empty
    · exact Or.inr ⟨v, rfl⟩
  · exact Or.inl ((slotOK_wf h16).mp h)

theorem wf_short_tail {p : Key} {b : Nat} {key1 : Key} {c : Node} (h : WF (.short (p ++ b :: key1) c)) :
    NK p ∧ WF (.short (b :: key1) c) := by
  rcases wf_short h with ⟨hk, w, rfl⟩ | ⟨hk, cs, rfl, hc⟩
  · exact (tk_append (by simp)).mp hk
  · exact ⟨(nk_append.mp hk.2).1, ⟨by simp, (nk_append.mp hk.2).2⟩, hc⟩

theorem no_strict_prefix {k : Key} {b : Nat} {key1 : Key} {c : Node} (hk : TermKey k)
    (h : WF (.short (k ++ b :: key1) c)) : False :=
  nk_not_tk (wf_short_tail h).1 hk

/-- induction over a well-formed trie by the shape of its nodes (slot 16 of a branch node holds no subtree) -/
theorem wf_induction {P : Node → Prop} (empty : P .empty)
    (leaf : ∀ key w, TermKey key → P (.short key (.value w)))
    (ext : ∀ key cs, ExtKey key → WFC cs 0 → P (.full cs) → P (.short key (.full cs)))
    (full : ∀ cs, WFC cs 0 → (∀ i, i < 16 → P (cs.get i)) → P (.full cs)) :
    ∀ t, WF t → P t := by
  intro t
  induction t using Node.rec (motive_2 := fun cs => ∀ j, WFC cs j → ∀ i, j + i < 16 → P (cs.get i)) with
  | empty => exact fun _ => empty
  | value _ => exact fun h => h.elim
  | short key c ih =>
    intro h
    rcases wf_short h with ⟨hk, w, rfl⟩ | ⟨hk, cs, rfl, hc⟩
    · exact leaf key w hk
    · exact ext key cs hk hc (ih hc)
  | full cs ih => exact fun h => full cs h (fun i hi => ih 0 h i (by omega))
  | nil => exact empty
  | cons n r ihn ihr =>
    rename_i j h i hi
    cases i with
    | zero => exact ihn ((slotOK_wf (by omega)).mp h.1)
    | succ i => exact ihr (j + 1) h.2 i (by omega)

/-! ### every branch node has at least two children -/

def Two (cs : Children) : Prop :=
  ∃ i j, i ≠ j ∧ (cs.get i).isEmpty = false ∧ (cs.get j).isEmpty = false

theorem two_set {cs : Children} {i : Nat} {x : Node} (h : Two cs) (hx : x.isEmpty = false) : Two (cs.set i x) := by
  obtain ⟨a, b, hab, ha, hb⟩ := h
  refine ⟨a, b, hab, ?_, ?_⟩
  · rw [Children.get_set]; split <;> assumption
  · rw [Children.get_set]; split <;> assumption

mutual
  def Br : Node → Prop
    | .short _ c => Br c
    | .full cs => Two cs ∧ BrC cs
    | _ => True
  def BrC : Children → Prop
    | .nil => True
    | .cons n r => Br n ∧ BrC r
end

theorem br_of_slotVal {c : Node} (h : SlotVal c) : Br c := by
  rcases slotVal_cases h with rfl | ⟨w, rfl⟩ <;> trivial

theorem brc_get : ∀ (cs : Children) (i : Nat), BrC cs → Br (cs.get i)
  | .nil, _, _ => trivial
  | .cons _ _, 0, h => h.1
  | .cons _ r, i + 1, h => brc_get r i h.2

theorem brc_set : ∀ (cs : Children) (i : Nat) (x : Node), BrC cs → Br x → BrC (cs.set i x)
  | .nil, _, _, h, _ => h
  | .cons _ _, 0, _, h, hx => ⟨hx, h.2⟩
  | .cons _ r, i + 1, x, h, hx => ⟨h.1, brc_set r i x h.2 hx⟩

theorem brc_replicate : ∀ n, BrC (Children.replicate n)
  | 0 => trivial
  | n + 1 => ⟨trivial, brc_replicate n⟩

theorem get_zero (t : Node) (k : Key) : get t k 0 = none := by
  cases t <;> rfl

theorem get_empty (k : Key) (f : Nat) : get .empty k f = none := by
  cases f <;> rfl

theorem get_value (v : Bytes) (k : Key) (f : Nat) : get (.value v) k (f + 1) = some v := rfl

theorem get_short (key : Key) (c : Node) (k : Key) (f : Nat) :
    get (.short key c) k (f + 1) = if key <+: k then get c (k.drop key.length) f else none :=
  prefix_test key k none _

theorem get_full_nil (cs : Children) (f : Nat) : get (.full cs) [] (f + 1) = none := rfl
theorem get_full_cons (cs : Children) (i : Nat) (r : Key) (f : Nat) :
    get (.full cs) (i :: r) (f + 1) = get (cs.get i) r f := rfl

theorem rest_length_lt {key rest : Key} {f : Nat} (hkey : key ≠ []) (hf : (key ++ rest).length < f + 1) :
    rest.length < f := by
  have := List.length_pos_iff.mpr hkey
  rw [List.length_append] at hf
  omega

theorem short_rest_lt {key : Key} {c : Node} (hw : WF (.short key c)) {k : Key} (hp : key <+: k) :
    (k.drop key.length).length < k.length := by
  obtain ⟨rest, rfl⟩ := hp
  rw [List.drop_left]
  exact rest_length_lt (wf_short_key_ne hw) (Nat.lt_succ_self _)

/-- fuel independence: every node on a path uses up at least one nibble -/
theorem get_fuel : ∀ (f g : Nat) (t : Node) (k : Key), WFv t → k.length < f → k.length < g →
    get t k f = get t k g := by
  intro f
  induction f with
  | zero => intro g t k _ h; omega
  | succ f ih =>
    intro g t k ht hf hg
    obtain ⟨g, rfl⟩ := exists_succ_of_lt hg
    rcases ht with hw | ⟨v, rfl⟩
    · cases t with
      | empty => rw [get_empty, get_empty]
      | value v => rfl
      | short key c =>
        rw [get_short, get_short]
        by_cases hp : key <+: k
        · have := short_rest_lt hw hp
          rw [if_pos hp, if_pos hp]
          exact ih g c _ (wf_short_child hw) (by omega) (by omega)
        · rw [if_neg hp, if_neg hp]
      | full cs =>
        cases k with
        | nil => rfl
        | cons i r => exact ih g _ r (wfv_of_slot (wfc_slot hw i)) (by simp at hf; omega) (by simp at hg; omega)
    · rfl

/-- `get` with as much fuel as any path can use -/
def getN (t : Node) (k : Key) : Option Bytes := get t k (k.length + 1)

theorem get_eq_getN {t : Node} {k : Key} {f : Nat} (ht : WFv t) (hf : k.length < f) : get t k f = getN t k :=
  get_fuel f (k.length + 1) t k ht hf (by omega)

theorem lookup_eq_getN {t : Node} (h : WF t) (key : Bytes) : lookup t key = getN t (keybytesToHex key) := by
  unfold lookup
  exact get_eq_getN (Or.inl h) (by omega)

theorem getN_empty (k : Key) : getN .empty k = none := get_empty _ _
theorem getN_value (v : Bytes) (k : Key) : getN (.value v) k = some v := rfl
theorem getN_full_nil (cs : Children) : getN (.full cs) [] = none := rfl
theorem getN_full_cons (cs : Children) (i : Nat) (r : Key) : getN (.full cs) (i :: r) = getN (cs.get i) r := rfl

theorem getN_short {key : Key} {c : Node} (hw : WF (.short key c)) (k : Key) :
    getN (.short key c) k = if key <+: k then getN c (k.drop key.length) else none := by
  unfold getN
  rw [get_short]
  by_cases hp : key <+: k
  · rw [if_pos hp, if_pos hp]
    exact get_eq_getN (wf_short_child hw) (short_rest_lt hw hp)
  · rw [if_neg hp, if_neg hp]

theorem getN_short_append {key : Key} {c : Node} (hw : WF (.short key c)) (rest : Key) :
    getN (.short key c) (key ++ rest) = getN c rest := by
  rw [getN_short hw, if_pos (List.prefix_append _ _), List.drop_left]

theorem getN_leaf {key k : Key} (hkey : TermKey key) (hk : TermKey k) (w : Bytes) :
    getN (.short key (.value w)) k = if k = key then some w else none := by
  rw [getN_short (wf_leaf.mpr hkey)]
  by_cases hp : key <+: k
  · rw [if_pos hp, if_pos (tk_prefix_eq hkey hk hp).symm]; rfl
  · rw [if_neg hp, if_neg (by rintro rfl; exact hp (List.prefix_refl _))]

theorem getN_short_value_self {k : Key} (hk : TermKey k) (v : Bytes) : getN (.short k (.value v)) k = some v := by
  rw [getN_leaf hk hk, if_pos rfl]

theorem short_prefix {key : Key} {c : Node} (ht : WF (.short key c)) {k : Key} {v : Bytes}
    (h : getN (.short key c) k = some v) : key <+: k := by
  refine Decidable.by_contra fun hp => ?_
  rw [getN_short ht, if_neg hp] at h
  cases h

theorem child_witness {cs : Children} {i : Nat} (hw : WFC cs 0) (hb : BrC cs)
    (ih : i < 16 → Br (cs.get i) → (cs.get i).isEmpty = false → ∃ k v, TermKey k ∧ getN (cs.get i) k = some v)
    (hne : (cs.get i).isEmpty = false) :
    ∃ r v, TermKey (i :: r) ∧ getN (cs.get i) r = some v := by
  have hlen := wfc_len hw
  have hl := get_nonempty_lt hne
  by_cases h16 : i = 16
  · subst h16
    rcases slotVal_cases (wfc_val hw) with e | ⟨w, e⟩
    · rw [e] at hne; cases hne
    · exact ⟨[], w, tk_term, by rw [e]; rfl⟩
  · obtain ⟨k, v, hk, hg⟩ := ih (by omega) (brc_get cs i hb) hne
    exact ⟨k, v, tk_child (by omega) hk, hg⟩

/-- every branch node has a child (`Br`) and every path down ends in a value -/
theorem witness {t : Node} (ht : WF t) (hb : Br t) (hne : t.isEmpty = false) :
    ∃ k v, TermKey k ∧ getN t k = some v := by
  revert hb hne
  refine wf_induction (P := fun t => Br t → t.isEmpty = false → ∃ k v, TermKey k ∧ getN t k = some v)
    (fun _ h => by cases h) (fun key w hk _ _ => ⟨key, w, hk, getN_short_value_self hk w⟩) ?_ ?_ t ht
  · intro key cs hk hc ih hb _
    obtain ⟨k0, v, hk0, hg⟩ := ih hb rfl
    exact ⟨key ++ k0, v, tk_under hk.2 hk0, by rw [getN_short_append (wf_ext.mpr ⟨hk, hc⟩)]; exact hg⟩
  · intro cs hc ih hb _
    obtain ⟨i, _, _, hi, _⟩ := hb.1
    obtain ⟨r, v, hk, hg⟩ := child_witness hc hb.2 (ih i) hi
    exact ⟨i :: r, v, hk, hg⟩

end AnnVerif.Trie
