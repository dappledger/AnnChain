/-
  The FIFO mempool (gemmill/mempool) along a sequence of receptions and commits. Two facts, each
  kept by every step on its own: no transaction is twice in the list and the list is within the
  cache (`FInv`); and, for ONE transaction, "seen and not held" (`Gone`): once a committed block
  contained it, it stays so for ever, because a reception only takes what the cache does not know.
  `update` is the repaired one throughout (`Fifo.update {}`: what a block contained stays in the cache).
-/
import AnnVerif.Model.Fifo
namespace AnnVerif.C19
open AnnVerif

inductive FOp where
  | recv (t : Nat)
  | update (block : List Nat)

def fstep (m : Fifo.Mem) : FOp → Fifo.Mem
  | .recv t => (Fifo.receive m t).1
  | .update b => Fifo.update {} m b

def committedIn : List FOp → List Nat
  | [] => []
  | .recv _ :: r => committedIn r
  | .update b :: r => b ++ committedIn r

structure FInv (m : Fifo.Mem) : Prop where
  nodup : m.txs.Nodup
  cached : ∀ t ∈ m.txs, t ∈ m.cache

theorem receive_cases {I : Fifo.Mem → Prop} (m : Fifo.Mem) (t : Nat) (same : I m)
    (new : t ∉ m.cache → I { txs := m.txs ++ [t], cache := m.cache ++ [t] }) : I (Fifo.receive m t).1 := by
  unfold Fifo.receive
  split
  · exact same
  · rename_i hc
    exact new (by simpa using hc)

theorem mem_update_txs {cfg : Fifo.Cfg} {m : Fifo.Mem} {b : List Nat} {t : Nat} :
    t ∈ (Fifo.update cfg m b).txs ↔ t ∈ m.txs ∧ t ∉ b := by
  simp [Fifo.update]

theorem mem_update_cache {m : Fifo.Mem} {b : List Nat} {t : Nat} :
    t ∈ (Fifo.update {} m b).cache ↔ t ∈ m.cache ∨ t ∈ b := by
  show t ∈ m.cache ++ b.eraseDups.filter (fun t => !m.cache.contains t) ↔ _
  by_cases hc : t ∈ m.cache
  · simp [hc]
  · simp [hc]

theorem fstep_inv (m : Fifo.Mem) (op : FOp) (h : FInv m) : FInv (fstep m op) := by
  cases op with
  | recv t =>
    refine receive_cases m t h fun hnc => ⟨?_, fun x hx => ?_⟩
    · exact List.nodup_append.2 ⟨h.nodup, List.pairwise_singleton _ t, fun a ha b hb e =>
        hnc (List.mem_singleton.1 hb ▸ e ▸ h.cached a ha)⟩
    · rw [List.mem_append] at hx ⊢
      exact hx.imp_left (h.cached x)
  | update b =>
    exact ⟨h.nodup.filter _, fun x hx => mem_update_cache.2 (.inl (h.cached x (mem_update_txs.1 hx).1))⟩

def Gone (t : Nat) (m : Fifo.Mem) : Prop := t ∈ m.cache ∧ t ∉ m.txs

theorem Gone.step {t : Nat} {m : Fifo.Mem} (h : Gone t m) (op : FOp) : Gone t (fstep m op) := by
  cases op with
  | recv t' =>
    refine receive_cases m t' h fun hnc => ⟨List.mem_append_left _ h.1, fun hm => ?_⟩
    rcases List.mem_append.1 hm with hm | hm
    · exact h.2 hm
    · exact hnc (List.mem_singleton.1 hm ▸ h.1)
  | update b => exact ⟨mem_update_cache.2 (.inl h.1), fun hm => h.2 (mem_update_txs.1 hm).1⟩

theorem gone_update (m : Fifo.Mem) (b : List Nat) (t : Nat) (ht : t ∈ b) : Gone t (Fifo.update {} m b) :=
  ⟨mem_update_cache.2 (.inr ht), fun hm => (mem_update_txs.1 hm).2 ht⟩

theorem gone_run (t : Nat) : ∀ (ops : List FOp) (m : Fifo.Mem), Gone t m ∨ t ∈ committedIn ops →
    Gone t (ops.foldl fstep m) := by
  intro ops
  induction ops with
  | nil => exact fun m h => h.resolve_right List.not_mem_nil
  | cons op r ih =>
    intro m h
    refine ih (fstep m op) ?_
    cases op with
    | recv t' => exact h.imp_left (·.step _)
    | update b =>
      rcases h with h | h
      · exact Or.inl (h.step _)
      · exact (List.mem_append.1 h).imp_left (gone_update m b t)

end AnnVerif.C19
