/-
  Proposer selection of the repaired validator set is fair (C16.1, C16.2): `incrementAccum k` is `k` single
  increments (`incrementAccum_repaired`), one increment is one round of add-the-powers / pick the first
  maximum / subtract the total on the bare accum list (`incrOnce_refines`), and that list scheme is an
  instance of the abstract one of Lemmas/Fairness.lean (`accsAt_closed`, `chAt_valid`).
-/
import AnnVerif.Lemmas.ValSetMembers
import AnnVerif.Lemmas.Fairness
import AnnVerif.Lemmas.Logic
namespace AnnVerif.ValSet
open AnnVerif.Fairness

theorem amax_spec (xs : List Int) (hne : xs ≠ []) :
    (amax xs).1 < xs.length ∧ xs[(amax xs).1]? = some (amax xs).2 ∧
    ∀ (j : Nat) (v : Int), xs[j]? = some v → v ≤ (amax xs).2 := by
  fun_induction amax xs with
  | case1 => exact absurd rfl hne
  | case2 x =>
    refine ⟨Nat.zero_lt_one, rfl, fun j v hv => ?_⟩
    cases j with
    | zero => exact Int.le_of_eq (Option.some.inj hv).symm
    | succ k => cases hv
  | case3 x y t rm hx ih =>
    obtain ⟨-, -, h3⟩ := ih (List.cons_ne_nil _ _)
    refine ⟨Nat.zero_lt_succ _, rfl, fun j v hv => ?_⟩
    cases j with
    | zero => exact Int.le_of_eq (Option.some.inj hv).symm
    | succ k => exact Int.le_trans (h3 k v hv) hx
  | case4 x y t rm hx ih =>
    obtain ⟨h1, h2, h3⟩ := ih (List.cons_ne_nil _ _)
    refine ⟨Nat.succ_lt_succ h1, h2, fun j v hv => ?_⟩
    cases j with
    | zero =>
      have := Option.some.inj hv
      omega
    | succ k => exact h3 k v hv

def stepAcc (ws : List Int) (T : Int) (accs : List Int) : List Int × Nat :=
  let x := List.zipWith (· + ·) accs ws
  (x.modify (argmaxFirst x) (· - T), argmaxFirst x)

section
variable (ws : List Int) (T : Int)

def accsAt : Nat → List Int
  | 0 => List.replicate ws.length 0
  | n + 1 => (stepAcc ws T (accsAt n)).1

def chAt (n : Nat) : Nat := (stepAcc ws T (accsAt ws T n)).2

def wf (j : Nat) : Int := (ws[j]?).getD 0

theorem accsAt_length (n : Nat) : (accsAt ws T n).length = ws.length := by
  induction n with
  | zero => simp [accsAt]
  | succ k ih => simp [accsAt, stepAcc, ih]

theorem score_getElem? {accs : List Int} {j : Nat} {a : Int} (hj : j < ws.length)
    (h : accs[j]? = some a) : (List.zipWith (· + ·) accs ws)[j]? = some (a + wf ws j) := by
  rw [List.getElem?_zipWith, h, wf, List.getElem?_eq_getElem hj]
  rfl

/-- the list model follows the closed form `n·w_j − T·cnt_j` of Lemmas/Fairness -/
theorem accsAt_closed (n : Nat) : ∀ j, j < ws.length →
    (accsAt ws T n)[j]? = some (acc (wf ws) T (chAt ws T) n j) := by
  induction n with
  | zero => intro j hj; simp [accsAt, acc, cnt, hj]
  | succ k ih =>
    intro j hj
    rw [accsAt, stepAcc, List.getElem?_modify, score_getElem? ws hj (ih j hj)]
    show some (if chAt ws T k = j then _ else _) = _
    unfold acc
    rw [cnt, Int.natCast_add, Int.add_mul, Int.mul_add]
    split
    · congr 1; omega
    · congr 1; omega

theorem chAt_valid (hN : ws ≠ []) (n : Nat) : ValidAt ws.length (wf ws) T (chAt ws T) n := by
  have hx := fun j hj => score_getElem? ws hj (accsAt_closed ws T n j hj)
  have hne : List.zipWith (· + ·) (accsAt ws T n) ws ≠ [] := fun h => by
    have := hx 0 (List.length_pos_iff.mpr hN)
    rw [h] at this
    cases this
  obtain ⟨h1, h2, h3⟩ := amax_spec _ hne
  have hci : chAt ws T n < ws.length := by
    rw [List.length_zipWith, accsAt_length, Nat.min_self] at h1
    exact h1
  refine ⟨hci, fun j hj => ?_⟩
  have := h3 j _ (hx j hj)
  rw [show (amax _).2 = _ from Option.some.inj (h2.symm.trans (hx _ hci))] at this
  exact this
end

theorem S_wf (l : List Int) : S l.length (wf l) = l.sum := by
  induction l with
  | nil => simp [S]
  | cons x t ih =>
    rw [List.length_cons, S_shift]
    have : S t.length (fun j => wf (x :: t) (j + 1)) = S t.length (wf t) :=
      S_congr _ _ _ (fun j _ => by simp [wf])
    rw [this, ih]; simp [wf]

/-- FAIRNESS for the list model: from zero accums, in `T = Σ powers` consecutive single increments
    (first-maximum tie-break, i.e. lowest address) validator `j` is chosen exactly `power j` times
    and all accums are zero again. -/
theorem stepAcc_fair (ws : List Int) (hw : ∀ p ∈ ws, 0 ≤ p) (T : Int) (hT : T = ws.sum)
    (hTpos : 0 < T) :
    (∀ j, j < ws.length → cnt (chAt ws T) T.toNat j = wf ws j) ∧
    accsAt ws T T.toNat = List.replicate ws.length 0 := by
  have hN : ws ≠ [] := by
    intro h
    subst h
    simp at hT
    omega
  have hwf : ∀ j, j < ws.length → 0 ≤ wf ws j := by
    intro j hj
    simp only [wf, List.getElem?_eq_getElem hj, Option.getD_some]
    exact hw _ (List.getElem_mem hj)
  obtain ⟨h1, h2⟩ := fair ws.length (wf ws) T (chAt ws T) hwf (by rw [S_wf]; exact hT) hTpos
    (fun n _ => chAt_valid ws T hN n)
  refine ⟨h1, ?_⟩
  apply List.ext_getElem?
  intro j
  by_cases hj : j < ws.length
  · rw [accsAt_closed ws T _ j hj, h2 j hj]; simp [hj]
  · have hl := accsAt_length ws T T.toNat
    rw [List.getElem?_eq_none (by omega), List.getElem?_eq_none (by simp; omega)]

theorem totalVotingPower_vals (vs : ValSet) : (totalVotingPower vs).1.vals = vs.vals := by
  unfold totalVotingPower
  split <;> rfl

theorem incrOnce_vals (vs : ValSet) : ∃ i t, (incrOnce vs).vals =
    (vs.vals.map fun v => ({ v with accum := v.accum + v.power } : Val)).modify i
      fun v => { v with accum := v.accum - t } := by
  unfold incrOnce
  simp only [totalVotingPower_vals]
  split
  · rename_i h
    exact ⟨0, 0, by rw [h]; rfl⟩
  · exact ⟨_, _, rfl⟩

/-- an increment touches accums only: whatever does not look at the accum is kept -/
theorem incrOnce_map {β : Type} (g : Val → β) (hg : ∀ v a, g { v with accum := a } = g v) (vs : ValSet) :
    (incrOnce vs).vals.map g = vs.vals.map g := by
  obtain ⟨i, t, h⟩ := incrOnce_vals vs
  rw [h, map_modify_eq g _ (fun v => hg v _), List.map_map]
  exact List.map_congr_left fun v _ => hg v _

theorem incrOnce_refines (vs : ValSet) (hc : CacheOK vs) (hne : vs.vals ≠ []) :
    (incrOnce vs).vals.map (·.accum) =
      (stepAcc (vs.vals.map (·.power)) (sumPower vs.vals) (vs.vals.map (·.accum))).1 ∧
    (incrOnce vs).proposer =
      (vs.vals[(stepAcc (vs.vals.map (·.power)) (sumPower vs.vals) (vs.vals.map (·.accum))).2]?).map (·.addr) := by
  have ht := (totalVotingPower_correct vs hc).1
  have hacc : ((vs.vals.map fun v => ({ v with accum := v.accum + v.power } : Val)).map (·.accum)) =
      List.zipWith (· + ·) (vs.vals.map (·.accum)) (vs.vals.map (·.power)) := by
    rw [List.map_map, List.zipWith_map, List.zipWith_self]
    rfl
  unfold incrOnce
  simp only [totalVotingPower_vals, ht]
  split
  · rename_i h
    exact absurd (List.map_eq_nil_iff.mp h) hne
  · simp only [stepAcc, ← hacc]
    refine ⟨map_modify Val.accum _ _ (fun _ => rfl) _ _, ?_⟩
    rw [List.getElem?_map, Option.map_map]
    rfl

theorem incrOnce_cacheOK (vs : ValSet) (hc : CacheOK vs) : CacheOK (incrOnce vs) := by
  have htot : (incrOnce vs).total = (totalVotingPower vs).1.total := by
    unfold incrOnce
    simp only
    split <;> rfl
  have := (totalVotingPower_correct vs hc).2
  unfold CacheOK sumPower at this ⊢
  rw [htot, incrOnce_map Val.power (fun _ _ => rfl), ← totalVotingPower_vals vs]
  exact this

theorem iter_succ' (f : α → α) (n : Nat) (a : α) : iter f (n + 1) a = f (iter f n a) := by
  induction n generalizing a with
  | zero => rfl
  | succ k ih => rw [iter, ih]; rfl

theorem iter_add (f : α → α) (m n : Nat) (a : α) : iter f (m + n) a = iter f n (iter f m a) := by
  induction m generalizing a with
  | zero => simp [iter]
  | succ k ih => rw [Nat.succ_add, iter, ih]; rfl

theorem iter_keeps {I : α → Prop} {f : α → α} (h : ∀ a, I a → I (f a)) : ∀ (n : Nat) (a : α), I a → I (iter f n a)
  | 0, _, ha => ha
  | n + 1, a, ha => iter_keeps h n (f a) (h a ha)

theorem incrementAccum_repaired (vs : ValSet) (k : Nat) :
    incrementAccum repaired vs k = iter incrOnce k vs := by
  unfold incrementAccum
  by_cases hk : k = 0
  · rw [if_pos hk, hk]
    rfl
  · rw [if_neg hk]
    rfl

theorem iter_incrOnce_map {β : Type} (g : Val → β) (hg : ∀ v a, g { v with accum := a } = g v) (vs : ValSet)
    (n : Nat) : (iter incrOnce n vs).vals.map g = vs.vals.map g :=
  iter_keeps (I := fun v : ValSet => v.vals.map g = vs.vals.map g) (fun v h => (incrOnce_map g hg v).trans h) n vs rfl

theorem iter_incrOnce_powers (vs : ValSet) (n : Nat) :
    (iter incrOnce n vs).vals.map (·.power) = vs.vals.map (·.power) :=
  iter_incrOnce_map Val.power (fun _ _ => rfl) vs n

theorem iter_incrOnce_ne_nil (vs : ValSet) (hne : vs.vals ≠ []) (n : Nat) : (iter incrOnce n vs).vals ≠ [] :=
  fun h => hne (List.map_eq_nil_iff.mp ((iter_incrOnce_powers vs n).symm.trans (by rw [h]; rfl)))

theorem iter_incrOnce_refines (vs0 : ValSet) (hc : CacheOK vs0) (hne : vs0.vals ≠ [])
    (hz : vs0.vals.map (·.accum) = List.replicate vs0.vals.length 0) (n : Nat) :
    (iter incrOnce n vs0).vals.map (·.accum) = accsAt (vs0.vals.map (·.power)) (sumPower vs0.vals) n := by
  induction n with
  | zero => simp [iter, accsAt, hz]
  | succ k ih =>
    have h2 := iter_incrOnce_powers vs0 k
    rw [iter_succ', (incrOnce_refines _ (iter_keeps incrOnce_cacheOK k vs0 hc) (iter_incrOnce_ne_nil vs0 hne k)).1,
      ih, h2, sumPower, h2]
    rfl

theorem iter_incrOnce_proposer (vs0 : ValSet) (hc : CacheOK vs0) (hne : vs0.vals ≠ [])
    (hz : vs0.vals.map (·.accum) = List.replicate vs0.vals.length 0) (n : Nat) :
    (iter incrOnce (n + 1) vs0).proposer =
      (vs0.vals[chAt (vs0.vals.map (·.power)) (sumPower vs0.vals) n]?).map (·.addr) := by
  have h2 := iter_incrOnce_powers vs0 n
  rw [iter_succ', (incrOnce_refines _ (iter_keeps incrOnce_cacheOK n vs0 hc) (iter_incrOnce_ne_nil vs0 hne n)).2,
    iter_incrOnce_refines vs0 hc hne hz n, h2, sumPower, h2, ← List.getElem?_map,
    iter_incrOnce_map Val.addr (fun _ _ => rfl),
    List.getElem?_map]
  rfl

end AnnVerif.ValSet

namespace AnnVerif.C16
open AnnVerif AnnVerif.ValSet AnnVerif.Fairness

inductive MOp where
  | add (v : Val) | update (v : Val) | remove (a : Bytes) | incr (k : Nat)

def mstep (cfg : Cfg) (vs : ValSet) : MOp → ValSet
  | .add v => (add vs v).1
  | .update v => (update vs v).1
  | .remove a => (remove vs a).1
  | .incr k => incrementAccum cfg vs k

/-- C16.3 for every operation, increments included -/
theorem mstep_sorted (vs : ValSet) (op : MOp) (hs : Sorted vs.vals) : Sorted (mstep repaired vs op).vals := by
  cases op with
  | add v => exact add_sorted vs v hs
  | update v => exact update_sorted vs v hs
  | remove a => exact remove_sorted vs a hs
  | incr k =>
    rw [mstep, incrementAccum_repaired]
    exact hs.of_addrs (iter_incrOnce_map Val.addr (fun _ _ => rfl) vs k)

/-- C16.4 likewise: a membership change resets the cached total, an increment fills it -/
theorem mstep_cacheOK (vs : ValSet) (op : MOp) (hc : CacheOK vs) : CacheOK (mstep repaired vs op) := by
  cases op with
  | add v => exact add_cacheOK vs v hc
  | update v => exact update_cacheOK vs v hc
  | remove a => exact remove_cacheOK vs a hc
  | incr k =>
    rw [mstep, incrementAccum_repaired]
    exact iter_keeps incrOnce_cacheOK k vs hc

end AnnVerif.C16
