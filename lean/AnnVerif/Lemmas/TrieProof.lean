/-
  Merkle proofs: for every well-formed trie, every terminated key and every hash function with
  32-byte output, `verify` run on the proof `prove` builds returns exactly what `get` returns -
  the stored value or its absence - unless the hash function collides on two nodes of the proof.
  The same holds on the node set a commit writes (`verify_node` serves both).
-/
import AnnVerif.Model.TrieProof
import AnnVerif.Lemmas.TrieCompact
import AnnVerif.Lemmas.Rlp
namespace AnnVerif.Trie

section
variable (H : Bytes → Bytes)

theorem enc_short (key : Key) (c : Node) : enc H (.short key c) = .list [.str (hexToCompact key), ref H c] := by
  rw [enc]
theorem enc_full (cs : Children) : enc H (.full cs) = .list (encChildren H cs) := by
  rw [enc]
theorem ref_empty : ref H .empty = .str [] := by rw [ref]
theorem ref_value (v : Bytes) : ref H (.value v) = .str v := by rw [ref]

theorem ref_eq (n : Node) : ref H n = if hashed H n then .str (H (Rlp.encode (enc H n))) else enc H n := by
  cases n with
  | empty => rw [ref, enc]; rfl
  | value _ => rw [ref, enc]; rfl
  | short key c =>
    rw [ref, ← enc_short, hashed]
    by_cases h : (Rlp.encode (enc H (.short key c))).length < 32 <;> simp [h]
  | full cs =>
    rw [ref, ← enc_full, hashed]
    by_cases h : (Rlp.encode (enc H (.full cs))).length < 32 <;> simp [h]

theorem rootHash_eq (t : Node) : rootHash H t = H (Rlp.encode (enc H t)) := by
  cases t with
  | empty => rw [enc]; rfl
  | _ => rfl

theorem enc_list {n : Node} (hw : WF n) (hne : n.isEmpty = false) : ∃ l, enc H n = .list l := by
  cases n with
  | empty => cases hne
  | value _ => exact hw.elim
  | short key c => exact ⟨_, enc_short H key c⟩
  | full cs => exact ⟨_, enc_full H cs⟩

theorem encChildren_length : ∀ cs : Children, (encChildren H cs).length = cs.length
  | .nil => by rw [encChildren]; rfl
  | .cons n r => by rw [encChildren, List.length_cons, encChildren_length r]; rfl

theorem encChildren_getD : ∀ (cs : Children) (i : Nat) (d : Rlp.Item), i < cs.length →
    (encChildren H cs).getD i d = ref H (cs.get i)
  | .nil, _, _, h => absurd h (Nat.not_lt_zero _)
  | .cons n r, 0, d, _ => by rw [encChildren]; rfl
  | .cons n r, i + 1, d, h => by
    rw [encChildren, List.getD_cons_succ]
    exact encChildren_getD r i d (Nat.lt_of_succ_lt_succ h)

theorem here_empty : here H .empty = [] := rfl
theorem here_value (v : Bytes) : here H (.value v) = [] := rfl

theorem proveBelow_zero (n : Node) (k : Key) : proveBelow H 0 n k = [] := by
  cases n <;> rfl
theorem proveBelow_empty (f : Nat) (k : Key) : proveBelow H f .empty k = [] := by
  cases f <;> rfl
theorem proveBelow_value (f : Nat) (v : Bytes) (k : Key) : proveBelow H f (.value v) k = [] := by
  cases f <;> rfl
theorem proveBelow_short (f : Nat) (key : Key) (c : Node) (k : Key) :
    proveBelow H (f + 1) (.short key c) k =
      if key <+: k then here H c ++ proveBelow H f c (k.drop key.length) else [] :=
  prefix_test key k [] _
theorem proveBelow_full_nil (f : Nat) (cs : Children) : proveBelow H f (.full cs) [] = [] := by
  cases f <;> rfl
theorem proveBelow_full_cons (f : Nat) (cs : Children) (i : Nat) (r : Key) :
    proveBelow H (f + 1) (.full cs) (i :: r) = here H (cs.get i) ++ proveBelow H f (cs.get i) r := rfl

/-! ### every encoding in the trie decodes back (sizes fit 64 bits) -/

mutual
  def SmallT : Node → Prop
    | .short key c => Rlp.smallOne (enc H (.short key c)) ∧ SmallT c
    | .full cs => Rlp.smallOne (enc H (.full cs)) ∧ SmallC cs
    | _ => True
  def SmallC : Children → Prop
    | .nil => True
    | .cons n r => SmallT n ∧ SmallC r
end

theorem smallc_get : ∀ (cs : Children) (i : Nat), SmallC H cs → SmallT H (cs.get i)
  | .nil, _, _ => trivial
  | .cons _ _, 0, h => h.1
  | .cons _ r, i + 1, h => smallc_get r i h.2

theorem small_enc {n : Node} (hw : WF n) (hs : SmallT H n) : Rlp.smallOne (enc H n) := by
  cases n with
  | empty => rw [enc, Rlp.smallOne]; simp
  | value _ => exact hw.elim
  | short _ _ => exact hs.1
  | full _ => exact hs.1

theorem walkRef_hash (w : Rlp.Item → Key → Walk) {h : Bytes} (hl : h.length = 32) (rest : Key) :
    walkRef w (.str h) rest = .next h rest := by
  cases h with
  | nil => cases hl
  | cons _ _ => simp only [walkRef]; rw [if_pos hl]

theorem walk_short (f : Nat) (c : Bytes) (child : Rlp.Item) (k : Key) :
    walk (f + 1) (.list [.str c, child]) k =
      if compactToHex c <+: k then
        if hasTerm (compactToHex c) then
          match child with
          | .str v => .found v
          | _ => .bad
        else walkRef (fun it r => walk f it r) child (k.drop (compactToHex c).length)
      else .absent :=
  prefix_test (compactToHex c) k Walk.absent _

theorem walk_leaf (f : Nat) {key : Key} (hkey : TermKey key) (w : Bytes) (k : Key) :
    walk (f + 1) (.list [.str (hexToCompact key), .str w]) k = if key <+: k then .found w else .absent := by
  rw [walk_short, compact_roundtrip key (Or.inl hkey), hasTerm_tk hkey, if_pos rfl]

theorem walk_ext (f : Nat) {key : Key} (hkey : ExtKey key) (child : Rlp.Item) (k : Key) :
    walk (f + 1) (.list [.str (hexToCompact key), child]) k =
      if key <+: k then walkRef (fun it r => walk f it r) child (k.drop key.length) else .absent := by
  rw [walk_short, compact_roundtrip key (Or.inr hkey), hasTerm_nk hkey.2, if_neg Bool.false_ne_true]

theorem walk_full_val (f : Nat) {l : List Rlp.Item} (hl : l.length = 17) {v : Bytes}
    (hv : l.getD 16 (.str []) = .str v) (r : Key) :
    walk (f + 1) (.list l) (16 :: r) = if v.isEmpty then .absent else .found v := by
  simp only [walk]
  rw [if_pos hl, if_pos trivial, hv]

theorem walk_full_child (f : Nat) {l : List Rlp.Item} (hl : l.length = 17) {i : Nat} (hi : i ≠ 16) (r : Key) :
    walk (f + 1) (.list l) (i :: r) = walkRef (fun it r => walk f it r) (l.getD i (.str [])) r := by
  simp only [walk]
  rw [if_pos hl, if_neg hi]

def Coll : Prop := ∃ a b : Bytes, a ≠ b ∧ H a = H b

/-- `H` collides on two members of `L`. This is the event the theorems below exclude, for `L` a proof or
    the node set of a commit. (`Coll H` says less than it seems to: among all byte strings a function
    with 32-byte values always collides.) -/
def CollIn (L : List Bytes) : Prop := ∃ a ∈ L, ∃ b ∈ L, a ≠ b ∧ H a = H b

variable {H} in
theorem CollIn.coll {L : List Bytes} : CollIn H L → Coll H := fun ⟨a, _, b, _, h⟩ => ⟨a, b, h⟩

variable {H} in
theorem CollIn.mono {L L' : List Bytes} (hs : L ⊆ L') : CollIn H L → CollIn H L' :=
  fun ⟨a, ha, b, hb, h⟩ => ⟨a, hs ha, b, hs hb, h⟩

theorem hash_inj {L : List Bytes} (hnc : ¬ CollIn H L) {a b : Bytes} (ha : a ∈ L) (hb : b ∈ L) (h : H a = H b) : a = b :=
  Classical.byContradiction fun ne => hnc ⟨a, ha, b, hb, ne, h⟩

theorem find_hash : ∀ {L : List Bytes}, ¬ CollIn H L → ∀ {e : Bytes}, e ∈ L → L.find? (fun x => H x == H e) = some e
  | [], _, _, h => by simp at h
  | x :: L, hnc, e, h => by
    by_cases hx : H x = H e
    · rw [hash_inj H hnc List.mem_cons_self h hx]; simp
    · rw [List.find?_cons_of_neg (by simpa using hx)]
      exact find_hash (fun c => hnc (c.mono (List.subset_cons_self ..)))
        ((List.mem_cons.mp h).resolve_left fun h' => hx (by rw [h']))

/-- what the verifier makes of the outcome of its walk through one decoded node -/
def resolve (L : List Bytes) (g : Nat) : Walk → Option (Option Bytes)
  | .absent => some none
  | .found v => some (some v)
  | .next h rest => verify H L g h rest
  | .bad => none

theorem verify_succ (L : List Bytes) (g : Nat) (want : Bytes) (k : Key) :
    verify H L (g + 1) want k =
      match L.find? (fun e => H e == want) with
      | none => none
      | some buf =>
        match Rlp.decode buf with
        | .error _ => none
        | .ok it => resolve H L g (walk (k.length + 1) it k) := rfl

theorem verify_hop {L : List Bytes} (hnc : ¬ CollIn H L) {n : Node} (hmem : Rlp.encode (enc H n) ∈ L) (hw : WF n)
    (hs : SmallT H n) (g : Nat) (k : Key) :
    verify H L (g + 1) (H (Rlp.encode (enc H n))) k = resolve H L g (walk (k.length + 1) (enc H n) k) := by
  rw [verify_succ, find_hash H hnc hmem]
  simp only
  rw [Rlp.decode_encode _ (small_enc H hw hs)]

/-- no key holds the empty value. `update` with an empty value deletes, so no trie it builds holds one;
    a slot that held one would be referred to like a slot that holds nothing, as `.str []` -/
def NoEmpty (t : Node) : Prop := ∀ k, TermKey k → getN t k ≠ some []

theorem NoEmpty.child {cs : Children} (h : NoEmpty (.full cs)) {i : Nat} (hi : i < 16) : NoEmpty (cs.get i) :=
  fun k hk => h (i :: k) (tk_child hi hk)

theorem NoEmpty.below {key : Key} {cs : Children} (hw : WF (.short key (.full cs)))
    (h : NoEmpty (.short key (.full cs))) : NoEmpty (.full cs) := by
  intro k hk
  have := h (key ++ k) (tk_under hw.1.2 hk)
  rwa [getN_short_append hw] at this

/-- The verifier's walk from the node `n` along `k`, resolved, comes to what the trie reads - whatever
    fuel the walk (`f`), the verifier (`g`) and the prover (`fp`) have beyond the length of the key -
    if the proof set `L` holds the prover's elements below `n`. A stored empty value is excluded
    (`getN n k ≠ some []`, for all keys `NoEmpty`): the verifier reads an empty slot 16 as absent
    (`walk_full_val`). -/
def Resolves (L : List Bytes) (n : Node) : Prop :=
  ∀ (k : Key) (f g fp : Nat), TermKey k → k.length < f → k.length ≤ g → k.length < fp → SmallT H n →
    getN n k ≠ some [] → (∀ e ∈ proveBelow H fp n k, e ∈ L) →
    resolve H L g (walk f (enc H n) k) = some (getN n k)

/-- a child reference: nothing, an embedded node (the walk goes on), or a hash (the verifier's next
    round, with the node's encoding as the prover's next element) -/
theorem resolve_ref (Hlen : ∀ x, (H x).length = 32) {L : List Bytes} (hnc : ¬ CollIn H L) {c : Node} (hw : WF c)
    (ih : c.isEmpty = false → Resolves H L c) {rest : Key} {f g fp : Nat} (hk : TermKey rest)
    (hf : rest.length < f) (hg : rest.length < g) (hfp : rest.length < fp) (hs : SmallT H c)
    (hnv : getN c rest ≠ some []) (hsub : ∀ e ∈ here H c ++ proveBelow H fp c rest, e ∈ L) :
    resolve H L g (walkRef (fun it r => walk f it r) (ref H c) rest) = some (getN c rest) := by
  rcases empty_or c with rfl | hne
  · rw [ref_empty, getN_empty]
    rfl
  rw [ref_eq]
  rw [here] at hsub
  by_cases hh : hashed H c = true
  · rw [if_pos hh] at hsub ⊢
    obtain ⟨g, rfl⟩ := exists_succ_of_lt hg
    rw [walkRef_hash _ (Hlen _)]
    show verify H L (g + 1) _ rest = _
    rw [verify_hop H hnc (hsub _ (by simp)) hw hs]
    exact ih hne rest _ g fp hk (Nat.lt_succ_self _) (Nat.le_of_lt_succ hg) hfp hs hnv
      (fun e he => hsub e (by simp [he]))
  · rw [if_neg hh] at hsub ⊢
    obtain ⟨l, hl⟩ := enc_list H hw hne
    have : walkRef (fun it r => walk f it r) (enc H c) rest = walk f (enc H c) rest := by rw [hl]; rfl
    rw [this]
    exact ih hne rest f g fp hk hf (Nat.le_of_lt hg) hfp hs hnv (fun e he => hsub e (by simpa using he))

theorem walk_resolves (Hlen : ∀ x, (H x).length = 32) {L : List Bytes} (hnc : ¬ CollIn H L) :
    ∀ n, WF n → n.isEmpty = false → Resolves H L n := by
  refine wf_induction (fun h => by cases h) ?_ ?_ ?_
  · intro key w hkt _ k f g fp _ hf _ _ _ _ _
    obtain ⟨f, rfl⟩ := exists_succ_of_lt hf
    rw [enc_short, ref_value, walk_leaf f hkt, getN_short (wf_leaf.mpr hkt)]
    split <;> rfl
  · intro key cs hke hc ih _ k f g fp hk hf hg hfp hs hnv hsub
    have hw : WF (.short key (.full cs)) := ⟨hke, hc⟩
    obtain ⟨f, rfl⟩ := exists_succ_of_lt hf
    obtain ⟨fp, rfl⟩ := exists_succ_of_lt hfp
    rw [enc_short, walk_ext f hke, getN_short hw]
    rw [proveBelow_short] at hsub
    by_cases hp : key <+: k
    · rw [if_pos hp] at hsub
      rw [if_pos hp, if_pos hp]
      obtain ⟨rest, rfl⟩ := hp
      rw [List.drop_left] at hsub ⊢
      exact resolve_ref H Hlen hnc (wf_full.mpr hc) ih (tk_rest hk hke.2) (rest_length_lt hke.1 hf)
        (rest_length_lt hke.1 (Nat.lt_succ_of_le hg)) (rest_length_lt hke.1 hfp) hs.2
        (by rwa [getN_short_append hw] at hnv) hsub
    · rw [if_neg hp, if_neg hp]; rfl
  · intro cs hw ih _ k f g fp hk hf hg hfp hs hnv hsub
    obtain ⟨i, r, rfl⟩ := tk_exists_cons hk
    obtain ⟨f, rfl⟩ := exists_succ_of_lt hf
    obtain ⟨fp, rfl⟩ := exists_succ_of_lt hfp
    obtain ⟨hi, hcase⟩ := wfc_child hw hk
    have hl : (encChildren H cs).length = 17 := by
      have := wfc_len hw
      rw [encChildren_length]; omega
    rw [enc_full, getN_full_cons]
    rw [getN_full_cons] at hnv
    rw [proveBelow_full_cons] at hsub
    rcases hcase with ⟨rfl, rfl, hsv⟩ | ⟨hlt, hr, hwc⟩
    · rcases slotVal_cases hsv with e | ⟨w, e⟩
      · rw [walk_full_val f hl (v := []) (by rw [encChildren_getD H cs 16 _ hi, e, ref_empty]), e, getN_empty]
        rfl
      · rw [walk_full_val f hl (v := w) (by rw [encChildren_getD H cs 16 _ hi, e, ref_value])]
        rw [e] at hnv ⊢
        cases w with
        | nil => exact absurd rfl hnv
        | cons _ _ => rfl
    · rw [walk_full_child f hl (by omega), encChildren_getD H cs i _ hi]
      exact resolve_ref H Hlen hnc hwc (ih i hlt) hr (Nat.lt_of_succ_lt_succ hf) hg (Nat.lt_of_succ_lt_succ hfp)
        (smallc_get H cs i hs.2) hnv hsub

theorem verify_node (Hlen : ∀ x, (H x).length = 32) {L : List Bytes} (hnc : ¬ CollIn H L) {n : Node} {k : Key}
    (g fp : Nat) (hw : WF n) (hne : n.isEmpty = false) (hk : TermKey k) (hs : SmallT H n)
    (hnv : getN n k ≠ some []) (hmem : Rlp.encode (enc H n) ∈ L) (hfp : k.length < fp)
    (hsub : ∀ e ∈ proveBelow H fp n k, e ∈ L) (hg : k.length < g) :
    verify H L g (H (Rlp.encode (enc H n))) k = some (getN n k) := by
  obtain ⟨g, rfl⟩ := exists_succ_of_lt hg
  rw [verify_hop H hnc hmem hw hs]
  exact walk_resolves H Hlen hnc n hw hne k _ g fp hk (Nat.lt_succ_self _) (Nat.le_of_lt_succ hg) hfp hs hnv hsub

/-- M7 (C11) for any well-formed trie -/
theorem verify_prove (Hlen : ∀ x, (H x).length = 32) (t : Node) (k : Key) (hw : WF t) (hne : t.isEmpty = false)
    (hk : TermKey k) (hs : SmallT H t) (hnv : getN t k ≠ some []) :
    verify H (prove H t k) (k.length + 1) (rootHash H t) k = some (getN t k) ∨ CollIn H (prove H t k) := by
  have hp : prove H t k = Rlp.encode (enc H t) :: proveBelow H (k.length + 1) t k := by
    cases t with
    | empty => cases hne
    | _ => rfl
  rw [hp, rootHash_eq]
  refine Classical.or_iff_not_imp_right.mpr fun hnc => ?_
  exact verify_node H Hlen hnc _ _ hw hne hk hs hnv (by simp) (Nat.lt_succ_self _) (fun e he => by simp [he])
    (Nat.lt_succ_self _)

/-! ### commit and reopen
  The node database a commit writes is the set of the encodings of all nodes stored by hash (and the
  root). Reading a key from it, starting at the root hash - fetch by hash, decode, walk through embedded
  nodes, fetch the next hash: `Trie.Get` over hash nodes - is the same loop as `VerifyProof`. -/

theorem allBelowC_get : ∀ (cs : Children) (i : Nat) (e : Bytes),
    e ∈ here H (cs.get i) ++ allBelow H (cs.get i) → e ∈ allBelowC H cs
  | .nil, _, e, h => absurd h List.not_mem_nil
  | .cons n r, 0, e, h => by
    rw [allBelowC]
    exact List.mem_append_left _ h
  | .cons n r, i + 1, e, h => by
    rw [allBelowC]
    exact List.mem_append_right _ (allBelowC_get r i e h)

theorem proveBelow_sub (f : Nat) (t : Node) (k : Key) (e : Bytes) : e ∈ proveBelow H f t k → e ∈ allBelow H t := by
  fun_induction proveBelow H f t k with
  | case1 => exact fun h => absurd h List.not_mem_nil
  | case2 => exact fun h => absurd h List.not_mem_nil
  | case3 f key c k hc ih =>
    intro h
    rw [allBelow]
    exact (List.mem_append.mp h).elim (List.mem_append_left _) fun h => List.mem_append_right _ (ih h)
  | case4 f cs i r ih =>
    intro h
    rw [allBelow]
    exact allBelowC_get H cs i e
      ((List.mem_append.mp h).elim (List.mem_append_left _) fun h => List.mem_append_right _ (ih h))
  | case5 => exact fun h => absurd h List.not_mem_nil

/-- M10 (C11) for any well-formed trie -/
theorem reopen_reads_content (Hlen : ∀ x, (H x).length = 32) (t : Node) (k : Key) (hw : WF t) (hne : t.isEmpty = false)
    (hk : TermKey k) (hs : SmallT H t) (hnv : getN t k ≠ some []) :
    verify H (commitNodes H t) (k.length + 1) (rootHash H t) k = some (getN t k) ∨ CollIn H (commitNodes H t) := by
  have hp : commitNodes H t = Rlp.encode (enc H t) :: allBelow H t := by
    cases t with
    | empty => cases hne
    | _ => rfl
  rw [hp, rootHash_eq]
  refine Classical.or_iff_not_imp_right.mpr fun hnc => ?_
  exact verify_node H Hlen hnc _ _ hw hne hk hs hnv (by simp) (Nat.lt_succ_self _)
    (fun e he => by simp [proveBelow_sub H _ t k e he]) (Nat.lt_succ_self _)

end
end AnnVerif.Trie
