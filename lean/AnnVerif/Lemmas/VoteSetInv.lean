/-
  The invariant of a vote set and its preservation by `AddVote` and `SetPeerMaj23`.

  The Go code changes a vote set by three kinds of write: a primary slot (`votes[i] = vote`), a
  per-block tally (`votesByBlock[key] = bv`) and the reported majority (`maj23 = &blockID` with the
  copy of the block's votes over the primary slots).  `Inv.setVote`, `Inv.store` and `Inv.promote`
  say under what conditions each keeps the invariant (each names the clauses its write can affect,
  the others are carried over); the lemmas about `primary`, `selectEntry`, `BlockVotes.add`,
  `applyTally` and `setPeerMaj23` only establish those conditions.
-/
import AnnVerif.Lemmas.VoteSet
namespace AnnVerif.VoteSet

/-- the history of offered votes, each with its signature-oracle bit -/
abbrev Hist := List (Vote × Bool)

/-- a stored vote at position `i` is one that was offered with a verifying signature, for this
    height/round/type, by the validator at position `i` (index and address match) -/
structure Good (hist : Hist) (vs : VoteSet) (i : Nat) (v : Vote) : Prop where
  idx : v.idx = (i : Int)
  offered : (v, true) ∈ hist
  h : v.height = vs.height
  r : v.round = vs.round
  t : v.type = vs.type
  addr : ∃ val, vs.vals[i]? = some val ∧ val.addr = v.addr

/-- what vote_set.go keeps true of a `VoteSet` between calls, `hist` being the votes offered so far -/
structure Inv (cfg : Cfg) (hist : Hist) (vs : VoteSet) : Prop where
  /-- `votes` has one slot per validator (`make([]*Vote, valSet.Size())`) -/
  len : vs.votes.length = vs.vals.length
  /-- `sum` is the power of the validators whose primary slot is occupied -/
  sum : vs.sum = tally (powers vs.vals) vs.votes
  slot : ∀ (i : Nat) (v : Vote), vs.votes[i]? = some (some v) → Good hist vs i v
  /-- `len` and `sum` again, for each tally `votesByBlock[k]` -/
  entryLen : ∀ k bv, lookup vs.byBlock k = some bv → bv.votes.length = vs.vals.length
  entrySum : ∀ k bv, lookup vs.byBlock k = some bv → bv.sum = tally (powers vs.vals) bv.votes
  /-- a vote in the tally under `k` has key `k`, and the primary slot of its validator is occupied (by this
      vote or by a conflicting one) -/
  entrySlot : ∀ k bv, lookup vs.byBlock k = some bv → ∀ (i : Nat) (v : Vote),
      bv.votes[i]? = some (some v) → Good hist vs i v ∧ v.bid.key cfg = k ∧ occ vs.votes i
  /-- the tally of a reported majority is at the quorum, and the copy made when it got there is still in the
      primary slots - up to the KEY: a later conflicting vote overwrites a slot exactly when its key is the
      majority's (`primary`), and as found two block ids can share a key -/
  majSound : ∀ b, vs.maj23 = some b → ∃ bv, lookup vs.byBlock (b.key cfg) = some bv ∧
      quorum (total vs.vals) ≤ bv.sum ∧
      ∀ (i : Nat) (v : Vote), bv.votes[i]? = some (some v) →
        ∃ v', vs.votes[i]? = some (some v') ∧ v'.bid.key cfg = b.key cfg
  /-- so that the vote with which a tally reaches the quorum is noticed -/
  majNone : vs.maj23 = none → ∀ k bv, lookup vs.byBlock k = some bv →
      bv.sum < quorum (total vs.vals)

/-- the fields no operation writes; `Good` and the quorum read nothing else of the set -/
def SameParams (a b : VoteSet) : Prop :=
  a.height = b.height ∧ a.round = b.round ∧ a.type = b.type ∧ a.vals = b.vals

theorem SameParams.refl (a : VoteSet) : SameParams a a := ⟨rfl, rfl, rfl, rfl⟩

theorem SameParams.vals {a b : VoteSet} (h : SameParams a b) : a.vals = b.vals := h.2.2.2
theorem SameParams.height {a b : VoteSet} (h : SameParams a b) : a.height = b.height := h.1
theorem SameParams.round {a b : VoteSet} (h : SameParams a b) : a.round = b.round := h.2.1
theorem SameParams.type {a b : VoteSet} (h : SameParams a b) : a.type = b.type := h.2.2.1

theorem SameParams.trans {a b c : VoteSet} (h1 : SameParams a b) (h2 : SameParams b c) :
    SameParams a c :=
  ⟨h1.1.trans h2.1, h1.2.1.trans h2.2.1, h1.2.2.1.trans h2.2.2.1, h1.2.2.2.trans h2.2.2.2⟩

theorem Good.subset {hist hist' : Hist} {vs : VoteSet} {i : Nat} {v : Vote}
    (hs : ∀ x ∈ hist, x ∈ hist') (g : Good hist vs i v) : Good hist' vs i v :=
  ⟨g.idx, hs _ g.offered, g.h, g.r, g.t, g.addr⟩

theorem Good.params {hist : Hist} {a b : VoteSet} {i : Nat} {v : Vote} (hp : SameParams a b)
    (g : Good hist a i v) : Good hist b i v := by
  obtain ⟨h1, h2, h3, h4⟩ := hp
  exact ⟨g.idx, g.offered, h1 ▸ g.h, h2 ▸ g.r, h3 ▸ g.t, h4 ▸ g.addr⟩

/-- `Good.params` for a write that touches neither height, round, type nor the validators -/
theorem Good.frame {hist : Hist} {a b : VoteSet} {i : Nat} {v : Vote} (g : Good hist a i v)
    (hp : SameParams a b := by exact ⟨rfl, rfl, rfl, rfl⟩) : Good hist b i v :=
  g.params hp

/-- the history enters the invariant only through which votes were offered -/
theorem Inv.subset {cfg : Cfg} {hist hist' : Hist} {vs : VoteSet} (hs : ∀ x ∈ hist, x ∈ hist')
    (h : Inv cfg hist vs) : Inv cfg hist' vs :=
  { h with
    slot := fun i v hv => (h.slot i v hv).subset hs
    entrySlot := fun k bv hk i v hv =>
      let ⟨g, a, b⟩ := h.entrySlot k bv hk i v hv
      ⟨g.subset hs, a, b⟩ }

theorem Inv.params {cfg : Cfg} {hist : Hist} {a : VoteSet} (h : Inv cfg hist a) : True := trivial

theorem lookup_none_of_find (m : List (Bytes × BlockVotes)) : True := trivial

theorem inv_new (cfg : Cfg) (height round : Int) (type : Nat) (vals : List Validator) :
    Inv cfg [] (new height round type vals) where
  len := List.length_replicate
  sum := (tally_replicate_none _ _).symm
  slot := fun _ _ h => nomatch List.eq_of_mem_replicate (List.mem_of_getElem? h)
  entryLen := fun _ _ h => nomatch h
  entrySum := fun _ _ h => nomatch h
  entrySlot := fun _ _ h => nomatch h
  majSound := fun _ h => nomatch h
  majNone := fun _ _ _ h => nomatch h

/-- what every per-block tally satisfies (whether already in the map or freshly created) -/
structure EntryOK (cfg : Cfg) (hist : Hist) (vs : VoteSet) (key : Bytes) (bv : BlockVotes) : Prop where
  len : bv.votes.length = vs.vals.length
  sum : bv.sum = tally (powers vs.vals) bv.votes
  slot : ∀ (i : Nat) (v : Vote), bv.votes[i]? = some (some v) →
    Good hist vs i v ∧ v.bid.key cfg = key ∧ occ vs.votes i

/-- what `majNone` and `majSound` ask of the tally under `key` -/
structure MajOK (cfg : Cfg) (vs : VoteSet) (key : Bytes) (bv : BlockVotes) : Prop where
  below : vs.maj23 = none → bv.sum < quorum (total vs.vals)
  reached : ∀ b, vs.maj23 = some b → b.key cfg = key → quorum (total vs.vals) ≤ bv.sum ∧
    ∀ (i : Nat) (w : Vote), bv.votes[i]? = some (some w) →
      ∃ v', vs.votes[i]? = some (some v') ∧ v'.bid.key cfg = key

section
variable {cfg : Cfg} {hist : Hist} {vs : VoteSet} {key : Bytes} {bv : BlockVotes}

/-- `votesByBlock[key]` as both `addVerifiedVote` and `SetPeerMaj23` read it: the tally stored under
    `key`, or the empty one they create when there is none -/
def tallyOf (vs : VoteSet) (key : Bytes) : BlockVotes :=
  (lookup vs.byBlock key).getD ⟨false, List.replicate vs.vals.length none, 0⟩

theorem tallyOf_of_lookup (hl : lookup vs.byBlock key = some bv) : tallyOf vs key = bv := by
  rw [tallyOf, hl]; rfl

/-- the tally read under `key` may be stored under `key` (`Inv.store`). Non-negative powers are needed for a
    freshly made one only: its sum is 0, and the quorum of a total that is not negative is positive. -/
theorem Inv.tallyOf_ok (hinv : Inv cfg hist vs) (key : Bytes) :
    EntryOK cfg hist vs key (tallyOf vs key) ∧
    ((∀ val ∈ vs.vals, 0 ≤ val.power) → MajOK cfg vs key (tallyOf vs key)) := by
  unfold VoteSet.tallyOf
  cases hl : lookup vs.byBlock key with
  | some bv =>
    refine ⟨⟨hinv.entryLen _ _ hl, hinv.entrySum _ _ hl, hinv.entrySlot _ _ hl⟩,
      fun _ => ⟨fun hn => hinv.majNone hn _ _ hl, fun b hb hk => ?_⟩⟩
    subst hk
    obtain ⟨bv', h1, h2, h3⟩ := hinv.majSound b hb
    cases hl.symm.trans h1
    exact ⟨h2, h3⟩
  | none =>
    refine ⟨⟨List.length_replicate, (tally_replicate_none _ _).symm,
        fun _ _ h => nomatch List.eq_of_mem_replicate (List.mem_of_getElem? h)⟩,
      fun hpos => ⟨fun _ => quorum_pos _ hpos, fun b hb hk => ?_⟩⟩
    subst hk
    obtain ⟨bv', h1, _⟩ := hinv.majSound b hb
    cases hl.symm.trans h1

/-- a conflicting vote is recorded only in a tally that some peer has claimed a majority for -/
theorem selectEntry_eq (vs : VoteSet) (key : Bytes) (c : Bool) :
    selectEntry vs key c =
      if c && !(tallyOf vs key).peerMaj23 then none else some (tallyOf vs key) := by
  unfold selectEntry tallyOf
  cases lookup vs.byBlock key with
  | some bv => rfl
  | none => cases c <;> rfl

theorem selectEntry_some {c : Bool} (hsel : selectEntry vs key c = some bv) : bv = tallyOf vs key := by
  rw [selectEntry_eq] at hsel
  split at hsel
  · cases hsel
  · exact (Option.some.inj hsel).symm

theorem BlockVotes.add_empty {i : Nat} (v : Vote) (power : Int) (h : bv.votes[i]? = some none) :
    bv.add i v power = { bv with votes := bv.votes.set i (some v), sum := bv.sum + power } := by
  unfold BlockVotes.add; rw [h]

theorem BlockVotes.add_other {i : Nat} (v : Vote) (power : Int) (h : bv.votes[i]? ≠ some none) :
    bv.add i v power = bv := by
  unfold BlockVotes.add
  split
  · exact absurd ‹_› h
  · rfl

theorem BlockVotes.add_keeps {i j : Nat} {w : Vote} (v : Vote) (power : Int)
    (h : bv.votes[i]? = some (some w)) : (bv.add j v power).votes[i]? = some (some w) := by
  by_cases hs : bv.votes[j]? = some none
  · rw [BlockVotes.add_empty v power hs]
    exact (List.getElem?_set_ne fun e => nomatch (e ▸ hs).symm.trans h).trans h
  · rw [BlockVotes.add_other v power hs]
    exact h

theorem EntryOK.free {i : Nat} (he : EntryOK cfg hist vs key bv) (hi : i < vs.vals.length)
    (hfirst : vs.votes[i]? = some none) : bv.votes[i]? = some none :=
  getElem?_of_not_occ (he.len ▸ hi) fun h =>
    let ⟨w, hw⟩ := occ_iff.mp h
    not_occ_of_get hfirst (he.slot i w hw).2.2

theorem EntryOK.add {i : Nat} {v : Vote} {power : Int}
    (he : EntryOK cfg hist vs key bv) (hg : Good hist vs i v) (hkey : v.bid.key cfg = key)
    (hpow : (powers vs.vals)[i]? = some power) (hpw : 0 ≤ power) (hocc : occ vs.votes i) :
    EntryOK cfg hist vs key (bv.add i v power) ∧ bv.sum ≤ (bv.add i v power).sum ∧
    (∀ (j : Nat) (w : Vote), (bv.add i v power).votes[j]? = some (some w) →
      bv.votes[j]? = some (some w) ∨ (j = i ∧ w = v)) := by
  by_cases hs : bv.votes[i]? = some none
  · rw [BlockVotes.add_empty v power hs]
    have hset : ∀ (j : Nat) (w : Vote), (bv.votes.set i (some v))[j]? = some (some w) →
        bv.votes[j]? = some (some w) ∨ (j = i ∧ w = v) := fun j w hw =>
      (getElem?_set_cases hw).elim (fun h => Or.inr ⟨h.1, (Option.some.inj h.2)⟩) (fun h => Or.inl h.2)
    refine ⟨⟨(List.length_set ..).trans he.len, ?_, fun j w hw => ?_⟩, Int.le_add_of_nonneg_right hpw, hset⟩
    · rw [tally_set _ _ _ _ _ _ hs hpow, he.sum]; rfl
    · rcases hset j w hw with h | ⟨rfl, rfl⟩
      · exact he.slot j w h
      · exact ⟨hg, hkey, hocc⟩
  · rw [BlockVotes.add_other v power hs]
    exact ⟨he, Int.le_refl _, fun j w h => Or.inl h⟩

end

section
variable {cfg : Cfg} {hist : Hist} {vs : VoteSet}

theorem Inv.setPeerMaj (hinv : Inv cfg hist vs) (pm : List (String × BlockID)) :
    Inv cfg hist { vs with peerMaj := pm } :=
  { hinv with
    slot := fun i v h => (hinv.slot i v h).frame
    entrySlot := fun k bv hk i v hv =>
      let ⟨g, a, c⟩ := hinv.entrySlot k bv hk i v hv
      ⟨g.frame, a, c⟩ }

/-- a vote written into primary slot `i`. If the slot held a vote already, a reported majority must
    have the new vote's key (the only case in which the code overwrites): the old one may be what
    covers a vote of the majority's tally. -/
theorem Inv.setVote {i : Nat} {v : Vote} {power s' : Int} {o : Option Vote}
    (hinv : Inv cfg hist vs) (hg : Good hist vs i v) (hpow : (powers vs.vals)[i]? = some power)
    (ho : vs.votes[i]? = some o) (hsum : s' = vs.sum + if o.isSome then 0 else power)
    (hmaj : ∀ b, vs.maj23 = some b → o.isSome → v.bid.key cfg = b.key cfg) :
    Inv cfg hist { vs with votes := vs.votes.set i (some v), sum := s' } := by
  have hi : i < vs.votes.length := (List.getElem?_eq_some_iff.mp ho).1
  refine { hinv with
    len := (List.length_set ..).trans hinv.len
    sum := ?_
    slot := fun j w hw => ?_
    entrySlot := fun k bv hk j w hw => ?_
    majSound := fun b hb => ?_ }
  · rw [hsum, hinv.sum]; exact (tally_set _ _ _ _ _ _ ho hpow).symm
  · rcases getElem?_set_cases hw with ⟨rfl, h⟩ | ⟨_, h⟩
    · cases h; exact hg.frame
    · exact (hinv.slot j w h).frame
  · obtain ⟨g, a, c⟩ := hinv.entrySlot k bv hk j w hw
    exact ⟨g.frame, a, occ_set _ _ _ _ c⟩
  · obtain ⟨bv, h1, h2, h3⟩ := hinv.majSound b hb
    refine ⟨bv, h1, h2, fun j w hw => ?_⟩
    obtain ⟨v', hv', hk'⟩ := h3 j w hw
    by_cases hij : i = j
    · subst hij
      cases ho.symm.trans hv'
      exact ⟨v, List.getElem?_set_self hi, hmaj b hb rfl⟩
    · exact ⟨v', (List.getElem?_set_ne hij).trans hv', hk'⟩

theorem Inv.store {key : Bytes} {bv : BlockVotes} (hinv : Inv cfg hist vs)
    (he : EntryOK cfg hist vs key bv) (hm : MajOK cfg vs key bv) :
    Inv cfg hist { vs with byBlock := insert vs.byBlock key bv } := by
  refine { hinv with
    slot := fun i v h => (hinv.slot i v h).frame
    entryLen := lookup_insert_forall hinv.entryLen he.len
    entrySum := lookup_insert_forall hinv.entrySum he.sum
    entrySlot := fun k bv2 hk i v hv => ?_
    majSound := fun b hb => ?_
    majNone := fun hn => lookup_insert_forall (hinv.majNone hn) (hm.below hn) }
  · obtain ⟨g, a, c⟩ := lookup_insert_forall hinv.entrySlot he.slot k bv2 hk i v hv
    exact ⟨g.frame, a, c⟩
  · by_cases hbk : b.key cfg = key
    · subst hbk
      exact ⟨bv, lookup_insert_self .., hm.reached b hb rfl⟩
    · obtain ⟨bv2, h1, h2, h3⟩ := hinv.majSound b hb
      exact ⟨bv2, (lookup_insert_ne _ _ _ _ hbk).trans h1, h2, h3⟩

theorem Inv.promote {b : BlockID} {bv : BlockVotes} (hpos : ∀ val ∈ vs.vals, 0 ≤ val.power)
    (hinv : Inv cfg hist vs) (he : EntryOK cfg hist vs (b.key cfg) bv)
    (hq : quorum (total vs.vals) ≤ bv.sum) :
    Inv cfg hist { vs with byBlock := insert vs.byBlock (b.key cfg) bv, maj23 := some b,
                           votes := overlay vs.votes bv.votes } := by
  have hl : bv.votes.length = vs.votes.length := he.len.trans hinv.len.symm
  -- the copy occupies no new slot: a vote is in a tally only if its validator's slot is occupied
  have hocc : ∀ j, occ (overlay vs.votes bv.votes) j ↔ occ vs.votes j := fun j =>
    (occ_overlay _ _ j hl).trans ⟨fun h => h.elim (fun hj =>
      let ⟨w, hw⟩ := occ_iff.mp hj; (he.slot j w hw).2.2) id, Or.inr⟩
  refine {
    len := (overlay_length ..).trans hinv.len
    sum := hinv.sum.trans (tally_congr _ _ _ (powers_nonneg _ hpos) fun j => (hocc j).symm)
    slot := fun j w hw => ?_
    entryLen := lookup_insert_forall hinv.entryLen he.len
    entrySum := lookup_insert_forall hinv.entrySum he.sum
    entrySlot := fun k bv2 hk i v hv => ?_
    majSound := fun b' hb' => ?_
    majNone := fun hn => nomatch hn }
  · rw [overlay_get _ _ _ hl] at hw
    cases hx : (bv.votes[j]?).join with
    | some x =>
      rw [hx] at hw; cases hw
      exact (he.slot j _ (Option.join_eq_some_iff.mp hx)).1.frame
    | none => rw [hx] at hw; exact (hinv.slot j w hw).frame
  · obtain ⟨g, a, c⟩ := lookup_insert_forall hinv.entrySlot he.slot k bv2 hk i v hv
    exact ⟨g.frame, a, (hocc i).mpr c⟩
  · cases hb'
    refine ⟨bv, lookup_insert_self .., hq, fun j w hw => ⟨w, ?_, (he.slot j w hw).2.1⟩⟩
    rw [overlay_get _ _ _ hl, hw]; rfl

end

theorem primary_first (cfg : Cfg) (vs : VoteSet) (v : Vote) (i : Nat) (key : Bytes) (power : Int)
    (hfirst : vs.votes[i]? = some none) :
    primary cfg vs v i key power =
      some ({ vs with votes := vs.votes.set i (some v), sum := vs.sum + power }, none) := by
  unfold primary; rw [hfirst]; rfl

theorem primary_dup (cfg : Cfg) (vs : VoteSet) (v e : Vote) (i : Nat) (key : Bytes) (power : Int)
    (hprev : vs.votes[i]? = some (some e)) (hsame : e.bid = v.bid) :
    primary cfg vs v i key power = none := by
  unfold primary; rw [hprev]
  exact if_pos hsame

theorem primary_conflict (cfg : Cfg) (vs : VoteSet) (v e : Vote) (i : Nat) (key : Bytes)
    (power : Int) (hprev : vs.votes[i]? = some (some e)) (hdiff : e.bid ≠ v.bid) :
    primary cfg vs v i key power =
      some (if vs.maj23.map (BlockID.key cfg) = some key then { vs with votes := vs.votes.set i (some v) }
        else vs, some e) := by
  unfold primary; rw [hprev]
  refine (if_neg hdiff).trans ?_
  split <;> rfl

theorem primary_frame {cfg : Cfg} {vs vs1 : VoteSet} {v : Vote} {i : Nat} {key : Bytes} {power : Int}
    {c : Option Vote} (hp : primary cfg vs v i key power = some (vs1, c)) :
    ∃ vo s, vs1 = { vs with votes := vo, sum := s } := by
  unfold primary at hp
  split at hp
  · split at hp
    · cases hp
    · split at hp <;> (cases hp; exact ⟨_, _, rfl⟩)
  · cases hp; exact ⟨_, _, rfl⟩

/-- the set after the primary-slot update, and what the second half needs to know about slot `i` -/
theorem primary_inv {cfg : Cfg} {hist : Hist} {vs vs1 : VoteSet} {v : Vote} {i : Nat}
    {power : Int} {c : Option Vote}
    (hinv : Inv cfg hist vs) (hg : Good hist vs i v)
    (hpow : (powers vs.vals)[i]? = some power)
    (hp : primary cfg vs v i (v.bid.key cfg) power = some (vs1, c)) :
    Inv cfg hist vs1 ∧ occ vs1.votes i ∧
    (vs.maj23.map (BlockID.key cfg) = some (v.bid.key cfg) → vs1.votes[i]? = some (some v)) := by
  have hi : i < vs.votes.length := by
    obtain ⟨val, hval, _⟩ := hg.addr
    rw [hinv.len]; exact (List.getElem?_eq_some_iff.mp hval).1
  have hset : (vs.votes.set i (some v))[i]? = some (some v) := List.getElem?_set_self hi
  cases ho : vs.votes[i]? with
  | none => exact absurd hi (Nat.not_lt.mpr (List.getElem?_eq_none_iff.mp ho))
  | some o =>
    cases o with
    | none =>
      rw [primary_first cfg vs v i _ power ho] at hp; cases hp
      exact ⟨hinv.setVote hg hpow ho rfl (fun _ _ h => nomatch h), occ_of_get hset, fun _ => hset⟩
    | some e =>
      by_cases hbe : e.bid = v.bid
      · rw [primary_dup cfg vs v e i _ power ho hbe] at hp; cases hp
      by_cases hm : vs.maj23.map (BlockID.key cfg) = some (v.bid.key cfg)
      · rw [primary_conflict cfg vs v e i _ power ho hbe, if_pos hm] at hp; cases hp
        refine ⟨hinv.setVote hg hpow ho (Int.add_zero _).symm (fun b hb _ => ?_), occ_of_get hset,
          fun _ => hset⟩
        rw [hb] at hm
        exact (Option.some.inj hm).symm
      · rw [primary_conflict cfg vs v e i _ power ho hbe, if_neg hm] at hp; cases hp
        exact ⟨hinv, occ_of_get ho, fun h => absurd h hm⟩

theorem applyTally_params (vs : VoteSet) (key : Bytes) (bv : BlockVotes) (i : Nat) (v : Vote)
    (power : Int) : SameParams vs (applyTally vs key bv i v power) := by
  unfold applyTally; split <;> exact ⟨rfl, rfl, rfl, rfl⟩

theorem applyTally_byBlock (vs : VoteSet) (key : Bytes) (bv : BlockVotes) (i : Nat) (v : Vote)
    (power : Int) :
    (applyTally vs key bv i v power).byBlock = insert vs.byBlock key (bv.add i v power) := by
  unfold applyTally; split <;> rfl

theorem applyTally_maj23 (vs : VoteSet) (key : Bytes) (bv : BlockVotes) (i : Nat) (v : Vote)
    (power : Int) :
    (applyTally vs key bv i v power).maj23 = vs.maj23 ∨
    (vs.maj23 = none ∧ (applyTally vs key bv i v power).maj23 = some v.bid) := by
  unfold applyTally
  split
  · rename_i h; exact Or.inr ⟨h.2.2, rfl⟩
  · exact Or.inl rfl

theorem applyTally_inv {cfg : Cfg} {hist : Hist} {vs : VoteSet} {bv : BlockVotes}
    {i : Nat} {v : Vote} {power : Int} {c : Bool}
    (hpos : ∀ val ∈ vs.vals, 0 ≤ val.power)
    (hinv : Inv cfg hist vs) (hg : Good hist vs i v)
    (hpow : (powers vs.vals)[i]? = some power) (hocc : occ vs.votes i)
    (hmajslot : vs.maj23.map (BlockID.key cfg) = some (v.bid.key cfg) →
      vs.votes[i]? = some (some v))
    (hsel : selectEntry vs (v.bid.key cfg) c = some bv) :
    Inv cfg hist (applyTally vs (v.bid.key cfg) bv i v power) := by
  cases selectEntry_some hsel
  obtain ⟨he, hm⟩ := hinv.tallyOf_ok (v.bid.key cfg)
  replace hm := hm hpos
  obtain ⟨he', hle, hslots⟩ :=
    he.add hg rfl hpow (powers_nonneg _ hpos _ (List.mem_of_getElem? hpow)) hocc
  unfold applyTally
  split
  · rename_i hcross
    exact hinv.promote hpos he' hcross.2.1
  · rename_i hnc
    refine hinv.store he' ⟨fun hn => Int.not_le.mp fun hq => hnc ⟨hm.below hn, hq, hn⟩,
      fun b hb hbk => ?_⟩
    obtain ⟨hq, hall⟩ := hm.reached b hb hbk
    refine ⟨Int.le_trans hq hle, fun j w hw => ?_⟩
    rcases hslots j w hw with h | ⟨rfl, rfl⟩
    · exact hall j w h
    · exact ⟨w, hmajslot (by rw [hb]; exact congrArg some hbk), rfl⟩

theorem addVerified_inv {cfg : Cfg} {hist : Hist} {vs : VoteSet} {v : Vote} {i : Nat}
    {power : Int}
    (hpos : ∀ val ∈ vs.vals, 0 ≤ val.power)
    (hinv : Inv cfg hist vs) (hg : Good hist vs i v)
    (hpow : (powers vs.vals)[i]? = some power) :
    Inv cfg hist (addVerified cfg vs v i (v.bid.key cfg) power).1 ∧
    SameParams vs (addVerified cfg vs v i (v.bid.key cfg) power).1 := by
  unfold addVerified
  cases hp : primary cfg vs v i (v.bid.key cfg) power with
  | none => exact ⟨hinv, SameParams.refl _⟩
  | some pr =>
    obtain ⟨vs1, c⟩ := pr
    obtain ⟨hinv1, hocc, hms⟩ := primary_inv hinv hg hpow hp
    obtain ⟨vo, s, rfl⟩ := primary_frame hp
    dsimp only
    cases hs : selectEntry _ (v.bid.key cfg) c.isSome with
    | none => exact ⟨hinv1, rfl, rfl, rfl, rfl⟩
    | some bv =>
      exact ⟨applyTally_inv hpos hinv1 hg.frame hpow hocc hms hs,
        applyTally_params { vs with votes := vo, sum := s } ..⟩

theorem addVote_eq_addVerified (cfg : Cfg) (vs : VoteSet) (v : Vote) (i : Nat) (val : Validator)
    (hidx : v.idx = (i : Int)) (hval : vs.vals[i]? = some val) (haddr : val.addr = v.addr)
    (hne : v.addr ≠ []) (hh : v.height = vs.height) (hr : v.round = vs.round) (ht : v.type = vs.type)
    (hnew : getVote cfg vs i (v.bid.key cfg) = none) :
    addVote cfg vs v true = addVerified cfg vs v i (v.bid.key cfg) val.power := by
  have hi : v.idx.toNat = i := by omega
  have c1 : ¬ v.idx < 0 := by omega
  have c2 : ¬ v.addr.isEmpty = true := mt List.isEmpty_iff.mp hne
  have c3 : ¬ (v.height ≠ vs.height ∨ v.round ≠ vs.round ∨ v.type ≠ vs.type) :=
    fun h => h.elim (· hh) (·.elim (· hr) (· ht))
  unfold addVote
  dsimp only
  rw [if_neg fun h => Or.elim (And.right h) c1 c2, if_neg c1, if_neg c2, if_neg c3, hi, hval]
  dsimp only
  rw [if_neg (not_not_intro haddr), hnew]
  rfl

theorem addVote_cases (cfg : Cfg) (vs : VoteSet) (v : Vote) (sigok : Bool) :
    (∃ o, addVote cfg vs v sigok = (vs, o) ∧ o ≠ .added ∧ ∀ a, o ≠ .conflict a) ∨
    (sigok = true ∧ ∃ val, v.idx = (v.idx.toNat : Int) ∧ vs.vals[v.idx.toNat]? = some val ∧
      val.addr = v.addr ∧ v.height = vs.height ∧ v.round = vs.round ∧ v.type = vs.type ∧
      getVote cfg vs v.idx.toNat (v.bid.key cfg) = none ∧
      addVote cfg vs v sigok = addVerified cfg vs v v.idx.toNat (v.bid.key cfg) val.power) := by
  unfold addVote
  dsimp only
  -- the guards one by one, each named: `split` on the whole cascade is some twenty times dearer to check
  by_cases c0 : (!cfg.idxCheck) = true ∧ (v.idx < 0 ∨ v.addr.isEmpty = true)
  · rw [if_pos c0]; exact Or.inl ⟨_, rfl, nofun, nofun⟩
  rw [if_neg c0]
  by_cases c1 : v.idx < 0
  · rw [if_pos c1]; exact Or.inl ⟨_, rfl, nofun, nofun⟩
  rw [if_neg c1]
  by_cases c2 : v.addr.isEmpty = true
  · rw [if_pos c2]; exact Or.inl ⟨_, rfl, nofun, nofun⟩
  rw [if_neg c2]
  by_cases c3 : v.height ≠ vs.height ∨ v.round ≠ vs.round ∨ v.type ≠ vs.type
  · rw [if_pos c3]; exact Or.inl ⟨_, rfl, nofun, nofun⟩
  rw [if_neg c3]
  cases hval : vs.vals[v.idx.toNat]? with
  | none => exact Or.inl ⟨_, rfl, by split <;> nofun, fun _ => by split <;> nofun⟩
  | some val =>
    dsimp only
    by_cases c4 : val.addr ≠ v.addr
    · rw [if_pos c4]; exact Or.inl ⟨_, rfl, nofun, nofun⟩
    rw [if_neg c4]
    cases hnew : getVote cfg vs v.idx.toNat (v.bid.key cfg) with
    | some e => exact Or.inl ⟨_, rfl, by split <;> nofun, fun _ => by split <;> nofun⟩
    | none =>
      dsimp only
      cases sigok with
      | false => exact Or.inl ⟨_, rfl, nofun, nofun⟩
      | true =>
        simp only [not_or, Classical.not_not] at c3 c4
        exact Or.inr ⟨rfl, val, by omega, rfl, c4, c3.1, c3.2.1, c3.2.2, rfl, rfl⟩

theorem addVote_inv {cfg : Cfg} {hist : Hist} {vs : VoteSet} (v : Vote) (sigok : Bool)
    (hpos : ∀ val ∈ vs.vals, 0 ≤ val.power) (hinv : Inv cfg hist vs) :
    Inv cfg (hist ++ [(v, sigok)]) (addVote cfg vs v sigok).1 ∧
    SameParams vs (addVote cfg vs v sigok).1 := by
  have hm : Inv cfg (hist ++ [(v, sigok)]) vs := hinv.subset fun _ => List.mem_append_left _
  rcases addVote_cases cfg vs v sigok with ⟨_, h, _⟩ | ⟨rfl, val, hidx, hval, haddr, hh, hr, ht, _, heq⟩
  · rw [h]; exact ⟨hm, SameParams.refl _⟩
  · rw [heq]
    exact addVerified_inv hpos hm
      ⟨hidx, List.mem_append_right _ (List.mem_singleton_self _), hh, hr, ht, val, hval, haddr⟩
      (getElem?_powers _ _ _ hval)

theorem setPeerMaj23_cases (cfg : Cfg) (vs : VoteSet) (peer : String) (b : BlockID) :
    setPeerMaj23 cfg vs peer b = vs ∨
    setPeerMaj23 cfg vs peer b = { vs with peerMaj := vs.peerMaj ++ [(peer, b)] } ∨
    setPeerMaj23 cfg vs peer b = { vs with
      peerMaj := vs.peerMaj ++ [(peer, b)]
      byBlock := insert vs.byBlock (b.key cfg) { tallyOf vs (b.key cfg) with peerMaj23 := true } } := by
  unfold setPeerMaj23 tallyOf
  by_cases hk : (vs.peerMaj.find? (·.1 = peer)).isSome = true
  · exact .inl (if_pos hk)
  rw [if_neg hk]
  dsimp only
  cases lookup vs.byBlock (b.key cfg) with
  | none => exact .inr (.inr rfl)
  | some bv =>
    dsimp only
    by_cases hpm : bv.peerMaj23 = true
    · exact .inr (.inl (if_pos hpm))
    · exact .inr (.inr (if_neg hpm))

theorem setPeerMaj23_inv {cfg : Cfg} {hist : Hist} {vs : VoteSet} (peer : String) (b : BlockID)
    (hpos : ∀ val ∈ vs.vals, 0 ≤ val.power) (hinv : Inv cfg hist vs) :
    Inv cfg hist (setPeerMaj23 cfg vs peer b) ∧ SameParams vs (setPeerMaj23 cfg vs peer b) := by
  have h1 := hinv.setPeerMaj (vs.peerMaj ++ [(peer, b)])
  rcases setPeerMaj23_cases cfg vs peer b with h | h | h
  · rw [h]; exact ⟨hinv, SameParams.refl _⟩
  · rw [h]; exact ⟨h1, rfl, rfl, rfl, rfl⟩
  · rw [h]
    obtain ⟨he, hm⟩ := h1.tallyOf_ok (b.key cfg)
    replace hm := hm hpos
    -- `EntryOK` and `MajOK` read `votes` and `sum` of a tally, never `peerMaj23`: the facts about `tallyOf`
    -- are, field by field, facts about its flagged copy
    exact ⟨h1.store ⟨he.len, he.sum, he.slot⟩ ⟨hm.below, hm.reached⟩, rfl, rfl, rfl, rfl⟩

theorem addVerified_maj23 (cfg : Cfg) (vs : VoteSet) (v : Vote) (i : Nat) (key : Bytes) (power : Int) :
    (addVerified cfg vs v i key power).1.maj23 = vs.maj23 ∨
    (vs.maj23 = none ∧ (addVerified cfg vs v i key power).1.maj23 = some v.bid) := by
  unfold addVerified
  cases hp : primary cfg vs v i key power with
  | none => exact Or.inl rfl
  | some pr =>
    obtain ⟨vs1, c⟩ := pr
    have h1 : vs1.maj23 = vs.maj23 := by
      obtain ⟨vo, s, rfl⟩ := primary_frame hp
      rfl
    dsimp only
    cases hs : selectEntry vs1 key c.isSome with
    | none => exact Or.inl h1
    | some bv =>
      rcases applyTally_maj23 vs1 key bv i v power with h | ⟨h, h'⟩
      · exact Or.inl (h.trans h1)
      · exact Or.inr ⟨h1 ▸ h, h'⟩

theorem addVote_maj23 (cfg : Cfg) (vs : VoteSet) (v : Vote) (sigok : Bool) :
    (addVote cfg vs v sigok).1.maj23 = vs.maj23 ∨
    (vs.maj23 = none ∧ (addVote cfg vs v sigok).1.maj23 = some v.bid ∧ sigok = true) := by
  rcases addVote_cases cfg vs v sigok with ⟨_, h, _⟩ | ⟨hs, val, _, _, _, _, _, _, _, heq⟩
  · exact Or.inl (by rw [h])
  · rw [heq]
    exact (addVerified_maj23 ..).imp id fun h => ⟨h.1, h.2, hs⟩

theorem setPeerMaj23_maj23 (cfg : Cfg) (vs : VoteSet) (peer : String) (b : BlockID) :
    (setPeerMaj23 cfg vs peer b).maj23 = vs.maj23 := by
  rcases setPeerMaj23_cases cfg vs peer b with h | h | h <;> rw [h]

theorem addVerified_first (cfg : Cfg) (vs : VoteSet) (v : Vote) (i : Nat) (key : Bytes) (power : Int)
    (hfirst : vs.votes[i]? = some none) :
    addVerified cfg vs v i key power =
      (applyTally { vs with votes := vs.votes.set i (some v), sum := vs.sum + power } key
        (tallyOf vs key) i v power, .added) := by
  unfold addVerified
  rw [primary_first cfg vs v i key power hfirst]
  dsimp only [Option.isSome_none]
  rw [selectEntry_eq]
  rfl

theorem addVerified_conflict (cfg : Cfg) (vs : VoteSet) (v e : Vote) (i : Nat) (key : Bytes)
    (power : Int) (hprev : vs.votes[i]? = some (some e)) (hdiff : e.bid ≠ v.bid) :
    ∃ added, (addVerified cfg vs v i key power).2 = .conflict added := by
  unfold addVerified
  rw [primary_conflict cfg vs v e i key power hprev hdiff]
  dsimp only [Option.isSome_some]
  cases selectEntry _ key true with
  | none => exact ⟨false, rfl⟩
  | some bv => exact ⟨true, rfl⟩

section
variable {cfg : Cfg} {hist : Hist} {vs : VoteSet}

theorem Inv.maj_iff (hinv : Inv cfg hist vs) :
    vs.maj23.isSome ↔ ∃ k bv, lookup vs.byBlock k = some bv ∧ quorum (total vs.vals) ≤ bv.sum := by
  cases hm : vs.maj23 with
  | some b =>
    obtain ⟨bv, hl, hq, _⟩ := hinv.majSound b hm
    exact ⟨fun _ => ⟨_, bv, hl, hq⟩, fun _ => rfl⟩
  | none =>
    refine ⟨fun h => (nomatch h), fun ⟨k, bv, hl, hq⟩ => ?_⟩
    exact absurd hq (Int.not_le.mpr (hinv.majNone hm k bv hl))

theorem Inv.getVote_first (hinv : Inv cfg hist vs) {i : Nat} (key : Bytes)
    (hfirst : vs.votes[i]? = some none) : getVote cfg vs i key = none := by
  unfold getVote
  rw [hfirst]
  show (lookup vs.byBlock key).bind (fun bv => (bv.votes[i]?).join) = none
  cases hl : lookup vs.byBlock key with
  | none => rfl
  | some bv =>
    cases hx : (bv.votes[i]?).join with
    | none => exact hx
    | some w =>
      exact absurd (hinv.entrySlot _ _ hl i w (Option.join_eq_some_iff.mp hx)).2.2
        (not_occ_of_get hfirst)

/-- the first vote of validator `i`, passing every check: it goes into the free primary slot, then the second
    half of `addVerifiedVote` runs on the tally of its key, whose slot `i` is free as well -/
theorem Inv.addVote_first (hinv : Inv cfg hist vs) {v : Vote} {i : Nat} {val : Validator}
    (hidx : v.idx = (i : Int)) (hval : vs.vals[i]? = some val) (haddr : val.addr = v.addr)
    (hne : v.addr ≠ []) (hh : v.height = vs.height) (hr : v.round = vs.round) (ht : v.type = vs.type)
    (hfirst : vs.votes[i]? = some none) :
    (tallyOf vs (v.bid.key cfg)).votes[i]? = some none ∧
      addVote cfg vs v true =
        (applyTally { vs with votes := vs.votes.set i (some v), sum := vs.sum + val.power }
          (v.bid.key cfg) (tallyOf vs (v.bid.key cfg)) i v val.power, .added) := by
  refine ⟨(hinv.tallyOf_ok _).1.free (List.getElem?_eq_some_iff.mp hval).1 hfirst, ?_⟩
  rw [addVote_eq_addVerified cfg vs v i val hidx hval haddr hne hh hr ht (hinv.getVote_first _ hfirst)]
  exact addVerified_first cfg vs v i _ _ hfirst

/-- `maj23` is only ever set to the `BlockID` of the vote just added; by this `SetOK` (Lemmas/NodePast.lean)
    traces a polka back to a vote with a verifying signature -/
def MajOffered (hist : Hist) (vs : VoteSet) : Prop :=
  ∀ b, vs.maj23 = some b → ∃ v, (v, true) ∈ hist ∧ v.bid = b

theorem addVote_majOffered (cfg : Cfg) (v : Vote) (sigok : Bool) (h : MajOffered hist vs) :
    MajOffered (hist ++ [(v, sigok)]) (addVote cfg vs v sigok).1 := by
  intro b hb
  rcases addVote_maj23 cfg vs v sigok with h' | ⟨_, h', rfl⟩
  · obtain ⟨w, hw, hwb⟩ := h b (h' ▸ hb)
    exact ⟨w, List.mem_append_left _ hw, hwb⟩
  · exact ⟨v, List.mem_append_right _ (List.mem_singleton_self _),
      Option.some.inj (h'.symm.trans hb)⟩

theorem setPeerMaj23_majOffered (cfg : Cfg) (peer : String) (b : BlockID) (h : MajOffered hist vs) :
    MajOffered hist (setPeerMaj23 cfg vs peer b) :=
  fun b' hb' => h b' (setPeerMaj23_maj23 cfg vs peer b ▸ hb')

end

end AnnVerif.VoteSet
