/-
  Properties of the single transactions in the pool's queues: `AllQ P` says every queued transaction
  satisfies `P`. `addWaiting` (given `P` of the transaction it adds), `promoteOne` and `demoteOne` keep it,
  since none of them invents a transaction; for `P` = "not in the block" the commit establishes it
  (`commit_removes`, C19 Q4).
-/
import AnnVerif.Lemmas.PoolOps
namespace AnnVerif.Pool

def MapAll (P : Tx → Prop) (m : AccMap) : Prop := ∀ a x, x ∈ m a → P x

structure AllQ (P : Tx → Prop) (p : Pool) : Prop where
  pending : MapAll P p.pending
  waiting : MapAll P p.waiting

variable {P : Tx → Prop}

theorem MapAll.set {m : AccMap} {a : Nat} {q : Queue} (h : MapAll P m) (hq : ∀ x ∈ q, P x) : MapAll P (mSet m a q) :=
  forall_mSet (R := fun _ q => ∀ x ∈ q, P x) hq h

theorem addWaiting_allQ (cfg : Cfg) (p : Pool) (t : Tx) (ht : P t) (h : AllQ P p) :
    AllQ P (addWaiting cfg p t).1 := by
  refine addWaiting_cases cfg p t (fun q _ hsub => ⟨h.pending, h.waiting.set fun x hx => h.waiting _ x (hsub.subset hx)⟩)
    fun w _ hsub _ _ => ⟨h.pending, h.waiting.set fun x hx => ?_⟩
  rcases (mem_qInsert w t x).1 hx with rfl | hx
  · exact ht
  · exact h.waiting _ x (hsub.subset hx)

theorem promoteOne_allQ (cfg : Cfg) (p : Pool) (a : Nat) (h : AllQ P p) : AllQ P (promoteOne cfg p a) := by
  refine promoteOne_cases cfg p a h fun stay ready _ hstay hready _ _ =>
    ⟨h.pending.set fun x hx => ?_, h.waiting.set fun x hx => h.waiting a x (hstay.subset hx)⟩
  rcases (mem_foldl_qInsert _ _ _).1 hx with h1 | h1
  · exact h.pending a x h1
  · exact h.waiting a x (hready.subset (List.mem_filter.1 h1).1)

theorem demoteOne_allQ (cfg : Cfg) (p : Pool) (a : Nat) (h : AllQ P p) : AllQ P (demoteOne cfg p a) := by
  obtain ⟨hk, hr⟩ := demote_parts cfg (p.pending a) (nonceOf p a)
  rw [demoteOne_eq rfl rfl]
  exact List.foldlRecOn (motive := AllQ P) _ _ ⟨h.pending.set fun x hx => h.pending a x (hk.subset hx), h.waiting⟩
    fun q hq t ht => reAdd_preserves (fun _ _ hq => ⟨hq.pending, hq.waiting⟩) (addWaiting_allQ cfg q t (h.pending a t (hr.subset ht)) hq)

theorem commit_removes (cfg : Cfg) (hc : cfg.commitRemoves = true) (p : Pool) (included : List Nat)
    (nonces : List (Nat × Nat)) :
    AllQ (fun t => t.id ∉ included) (commit cfg p included nonces) := by
  refine commit_cases (fun hn => nomatch hc.symm.trans hn) (fun _ _ _ => ⟨?_, ?_⟩)
    (fun _ hq => List.foldlRecOn _ _ hq fun q hq a _ => demoteOne_allQ cfg q a hq)
    fun q a _ hq => promoteOne_allQ cfg q a hq
  all_goals
    intro a x hx
    simpa using (List.mem_filter.mp hx).2

end AnnVerif.Pool
