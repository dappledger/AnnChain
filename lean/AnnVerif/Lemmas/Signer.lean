/-
  The repaired signer (Model/Signer.lean) keeps memory = file, and from such a state one
  request either leaves the record as it is or replaces it by one strictly higher in
  (height, round, step) (`Adv`); what it releases is the record it then holds. `Adv` is transitive,
  so along a run every later release stands in `Adv` to every earlier one.
-/
import AnnVerif.Model.Signer
namespace AnnVerif.Signer

def Rec.below (m m' : Rec) : Prop :=
  m.h < m'.h ∨ (m.h = m'.h ∧ (m.r < m'.r ∨ (m.r = m'.r ∧ m.s < m'.s)))

/-- the comparison chain of `signBytesHRS` is the lexicographic comparison -/
theorem verdict_spec (m : Rec) (h r s : Int) (b : Bytes) :
    match verdict m h r s b with
    | .regression => True
    | .cached => m = ⟨h, r, s, some b⟩
    | .fresh => m.below ⟨h, r, s, some b⟩ := by
  obtain ⟨mh, mr, ms, mb⟩ := m
  simp only [verdict, Rec.below, Rec.mk.injEq]
  by_cases h1 : mh > h
  · rw [if_pos h1]; trivial
  rw [if_neg h1]
  by_cases h2 : mh = h
  · rw [if_pos h2]
    by_cases h3 : mr > r
    · rw [if_pos h3]; trivial
    rw [if_neg h3]
    by_cases h4 : mr = r
    · rw [if_pos h4]
      by_cases h5 : ms > s
      · rw [if_pos h5]; trivial
      rw [if_neg h5]
      by_cases h6 : ms = s
      · rw [if_pos h6]
        cases mb with
        | none => trivial
        | some lb =>
          by_cases h7 : lb = b
          · simp only [if_pos h7]; exact ⟨h2, h4, h6, congrArg some h7⟩
          · simp only [if_neg h7]
      · rw [if_neg h6]; exact .inr ⟨h2, .inr ⟨h4, by omega⟩⟩
    · rw [if_neg h4]; exact .inr ⟨h2, .inl (by omega)⟩
  · rw [if_neg h2]; exact .inl (by omega)

def Adv (m m' : Rec) : Prop := m' = m ∨ m.below m'

theorem Adv.trans {a b c : Rec} (h1 : Adv a b) (h2 : Adv b c) : Adv a c := by
  rcases h1 with rfl | h1
  · exact h2
  rcases h2 with rfl | h2
  · exact .inr h1
  · exact .inr (by unfold Rec.below at *; omega)

def recOf (x : Int × Int × Int × Bytes) : Rec := ⟨x.1, x.2.1, x.2.2.1, some x.2.2.2⟩

def released : Option Out → List (Int × Int × Int × Bytes)
  | some (.released h r s b) => [(h, r, s, b)]
  | _ => []

/-- the last part is DURABLE BEFORE IT LEAVES: what is released is the record then on file -/
theorem sign_spec (st : St) (hmd : st.mem = st.disk) (h r s : Int) (b : Bytes) (w : Write) :
    (sign repaired st h r s b w).1.mem = (sign repaired st h r s b w).1.disk ∧
    Adv st.mem (sign repaired st h r s b w).1.mem ∧
    ∀ x ∈ released (some (sign repaired st h r s b w).2), (sign repaired st h r s b w).1.mem = recOf x := by
  have hv := verdict_spec st.mem h r s b
  unfold sign
  generalize verdict st.mem h r s b = v at hv ⊢
  cases v with
  | regression => exact ⟨hmd, .inl rfl, fun _ hx => by cases hx⟩
  | cached => exact ⟨hmd, .inl rfl, fun _ hx => by cases List.mem_singleton.1 hx; exact hv⟩
  | fresh =>
    cases w with
    | ok => exact ⟨rfl, .inr hv, fun _ hx => by cases List.mem_singleton.1 hx; rfl⟩
    | fail => exact ⟨hmd, .inl rfl, fun _ hx => by cases hx⟩
    | crashBefore => exact ⟨rfl, .inl hmd.symm, fun _ hx => by cases hx⟩
    | crashAfter => exact ⟨rfl, .inr hv, fun _ hx => by cases hx⟩

theorem step_spec (st : St) (hmd : st.mem = st.disk) (op : Op) :
    (step repaired st op).1.mem = (step repaired st op).1.disk ∧
    Adv st.mem (step repaired st op).1.mem ∧
    ∀ x ∈ released (step repaired st op).2, (step repaired st op).1.mem = recOf x := by
  cases op with
  | restart => exact ⟨rfl, .inl hmd.symm, fun _ hx => by cases hx⟩
  | sign h r s b w => exact sign_spec st hmd h r s b w

theorem run_cons (cfg : Cfg) (st : St) (op : Op) (t : List Op) :
    (run cfg st (op :: t)).2 = released (step cfg st op).2 ++ (run cfg (step cfg st op).1 t).2 :=
  rfl

theorem run_adv (ops : List Op) : ∀ (st : St), st.mem = st.disk →
    ∀ x ∈ (run repaired st ops).2, Adv st.mem (recOf x) := by
  induction ops with
  | nil => intro st _ x hx; cases hx
  | cons op t ih =>
    intro st hmd x hx
    obtain ⟨h1, h2, h3⟩ := step_spec st hmd op
    rw [run_cons, List.mem_append] at hx
    rcases hx with hx | hx
    · exact h3 x hx ▸ h2
    · exact h2.trans (ih _ h1 x hx)

theorem run_pairwise_adv (ops : List Op) : ∀ (st : St), st.mem = st.disk →
    List.Pairwise (fun x y => Adv (recOf x) (recOf y)) (run repaired st ops).2 := by
  induction ops with
  | nil => intro st _; exact .nil
  | cons op t ih =>
    intro st hmd
    obtain ⟨h1, -, h3⟩ := step_spec st hmd op
    rw [run_cons, List.pairwise_append]
    refine ⟨?_, ih _ h1, fun x hx y hy => h3 x hx ▸ run_adv t _ h1 y hy⟩
    unfold released
    split <;> simp

end AnnVerif.Signer
