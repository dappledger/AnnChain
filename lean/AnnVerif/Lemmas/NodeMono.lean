/-
  The consensus state machine never goes back: over every run, (height, round, step) only grows in
  the lexicographic order — for every peer message, own message and timeout, whatever the fields.
  (Model/Node.lean; every `enter*` function guards on exactly this.)  It is C04 L6, and what the later
  invariants use to compare a state with an earlier one (`Sched`, `A3Inv.advance`).

  The timeouts a node schedules are never for a round ahead of it: over every run, every
  `Emit.timeout h r s` in the node's output is for an earlier height, or for the node's height and a
  round it has entered. So a ticker that relays only what was scheduled (ticker.go drops everything
  else: `Scheduled`, NodeRun) never fires a timeout for a round the node has not entered - the
  hypothesis `RunOK` of the timed run invariants (QJ, A3Inv) holds for every such run
  (`runOK_of_scheduled`).
-/
import AnnVerif.Lemmas.NodeMoves

namespace AnnVerif.Node

def Le (a b : Node) : Prop :=
  a.height < b.height ∨ (a.height = b.height ∧ (a.round < b.round ∨ (a.round = b.round ∧ a.step.toNat ≤ b.step.toNat)))

theorem Le.refl (n : Node) : Le n n := Or.inr ⟨rfl, Or.inr ⟨rfl, Nat.le_refl _⟩⟩

theorem Le.trans {a b c : Node} (x : Le a b) (y : Le b c) : Le a c := by
  unfold Le at *
  omega

theorem Le.height_le {a b : Node} (l : Le a b) : a.height ≤ b.height := by
  unfold Le at l
  omega

theorem Le.round_le {a b : Node} (l : Le a b) (hh : b.height = a.height) : a.round ≤ b.round := by
  unfold Le at l
  omega

theorem Le.step_le {a b : Node} (l : Le a b) (hh : b.height = a.height) (hr : b.round = a.round) :
    a.step.toNat ≤ b.step.toNat := by
  unfold Le at l
  omega

theorem Le.enter {a b : Node} (hh : b.height = a.height) (hr : a.round ≤ b.round)
    (hs : a.round = b.round → a.step.toNat ≤ b.step.toNat) : Le a b := by
  unfold Le
  omega

theorem Enters.le {a b : Node} {h r : Int} {s : Step} (e : Enters a h r s) (hh : b.height = a.height)
    (hr : b.round = r) (hs : b.step = s) : Le a b :=
  Le.enter hh (hr ▸ e.round) fun x => by rw [hs]; exact Nat.le_of_lt (e.step (x.trans hr))

variable {timed : Prop} {off : VoteSet.Hist}

theorem Le.move {a b : Node} (m : Move timed off a b) : Le a b := by
  cases m with
  | wait _ _ _ e | prevote _ _ e | precommit _ _ e | propose _ _ e => exact e.le rfl rfl rfl
  | newRound _ hr hs => exact Le.enter rfl hr fun e => by rw [hs e]; exact Nat.le_succ 1
  | commitStep _ hs => exact Le.enter rfl (Int.le_refl _) fun _ => Nat.le_of_lt hs
  | finalize => exact Or.inl (Int.lt_succ _)
  | _ => exact Le.refl _

theorem le_stepIn (n : Node) (i : In) : Le n (stepIn n i) :=
  stepIn_keeps (P := Le n) (fun m l => l.trans (Le.move m)) n i (Le.refl n)

theorem le_run (ins : List In) (n : Node) : Le n (ins.foldl stepIn n) :=
  run_keeps (P := Le n) (fun m l => l.trans (Le.move m)) ins n (Le.refl n)

def NotAhead (n : Node) (h r : Int) : Prop := h < n.height ∨ (h = n.height ∧ r ≤ n.round)

def EmitOK (n : Node) : Emit → Prop
  | .timeout h r _ => NotAhead n h r
  | _ => True

def Sched (n : Node) : Prop := ∀ e ∈ n.out, EmitOK n e

theorem NotAhead.mono {a b : Node} (l : Le a b) {h r : Int} (x : NotAhead a h r) : NotAhead b h r := by
  unfold NotAhead Le at *
  omega

theorem EmitOK.mono {a b : Node} (l : Le a b) {e : Emit} (x : EmitOK a e) : EmitOK b e := by
  cases e with
  | timeout h r s => exact NotAhead.mono l x
  | _ => trivial

/-- a timeout is scheduled by the move that enters its round -/
theorem Sched.move {a b : Node} (m : Move timed off a b) (s : Sched a) : Sched b := by
  have le := Le.move m
  have emits : ∀ evs, b.out = a.out ++ evs → (∀ e ∈ evs, EmitOK b e) → Sched b := fun evs h ok e he =>
    (List.mem_append.mp (h ▸ he)).elim (fun x => (s e x).mono le) (ok e)
  cases m with
  | panic | saveIncomplete => exact emits [_] rfl (List.forall_mem_singleton.mpr trivial)
  | wait _ _ _ en _ hev =>
    refine emits [_] rfl (List.forall_mem_singleton.mpr ?_)
    rcases hev with rfl | ⟨_, rfl, _⟩
    · exact Or.inr ⟨en.height.symm, Int.le_refl _⟩
    · trivial
  | propose _ _ en => exact emits [_] rfl (List.forall_mem_singleton.mpr (Or.inr ⟨en.height.symm, Int.le_refl _⟩))
  | finalize =>
    exact emits [_, _] (List.append_assoc ..)
      (List.forall_mem_cons.mpr ⟨trivial, List.forall_mem_singleton.mpr (Or.inr ⟨rfl, Int.le_refl _⟩)⟩)
  | _ => exact fun e he => (s e he).mono le

theorem sched_run (ins : List In) : ∀ n : Node, Sched n → Sched (ins.foldl stepIn n) := run_keeps Sched.move ins

theorem runOK_of_scheduled (ins : List In) : ∀ n : Node, Sched n → Scheduled n ins → RunOK n ins := by
  induction ins with
  | nil => intro _ _ _; trivial
  | cons i rest ih =>
    intro n s hs
    refine ⟨?_, ih _ (stepIn_keeps Sched.move n i s) hs.2⟩
    cases i with
    | timeout h r st =>
      have := s _ hs.1
      intro e
      rcases this with x | ⟨_, x⟩
      · omega
      · exact x
    | _ => trivial

theorem init_sched (cfg : Cfg) (height : Int) (vals : ValSet.ValSet) (me : Option Nat) (skip : Bool) :
    Sched (init cfg height vals me skip) := List.forall_mem_nil _

end AnnVerif.Node
