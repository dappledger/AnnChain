/-
  The filter of the timeout routine (Model/Ticker.lean), as it is in the code, is the lexicographic
  order on (height, round, step); before the first timeout was armed (step 0) any step passes.
-/
import AnnVerif.Model.Ticker
namespace AnnVerif.Ticker

theorem accept_iff (ti nt : TI) : accept {} ti nt = true ↔
    ti.height < nt.height ∨ (ti.height = nt.height ∧
      (ti.round < nt.round ∨ (ti.round = nt.round ∧ (ti.step = 0 ∨ ti.step < nt.step)))) := by
  unfold accept
  simp only [Bool.not_true, Bool.false_eq_true, or_false, Bool.ite_eq_true_distrib, Bool.not_eq_true',
    decide_eq_false_iff_not, if_false_left, if_true_right]
  omega

end AnnVerif.Ticker
