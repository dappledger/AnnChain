/-
  The pool and one SYNC_LOOP iteration (Model/Sync.lean): what `serve` and `complete` do, case by case;
  the invariant `C13.ChainInv` of the chain state and the applied list, kept by every iteration.
-/
import AnnVerif.Model.Sync
import AnnVerif.Lemmas.BlockValid
namespace AnnVerif.Sync
open AnnVerif.VoteSet AnnVerif.Block

theorem serve_eq (cfg : Cfg) (p : Pool) (assigned : String) (b : Served) :
    serve cfg p assigned b =
      if (cfg.dropsIncomplete = true ∧ b.complete = false) ∨ b.blk.hdr.height < p.height ∨
          (p.block b.blk.hdr.height).isSome = true ∨ assigned ≠ b.peer
      then (p, false)
      else ({ p with block := fun k => if k = b.blk.hdr.height then some b else p.block k }, true) := by
  unfold serve
  simp only [Bool.not_eq_true']
  by_cases c1 : cfg.dropsIncomplete = true ∧ b.complete = false
  · rw [if_pos c1, if_pos (.inl c1)]
  by_cases c2 : b.blk.hdr.height < p.height
  · rw [if_neg c1, if_pos c2, if_pos (.inr (.inl c2))]
  by_cases c3 : (p.block b.blk.hdr.height).isSome = true ∨ assigned ≠ b.peer
  · rw [if_neg c1, if_neg c2, if_pos c3, if_pos (.inr (.inr c3))]
  · rw [if_neg c1, if_neg c2, if_neg c3, if_neg (fun h => h.elim c1 (·.elim c2 c3))]

theorem complete_cases (cfg : Cfg) (ch : Changes) (vh : Int → Bytes) (sigok : Nat → Vote → Bool)
    (s : St) (first second : Served) :
    (second.hasCommit = true ∧ first.complete = true ∧
      verifyCommit cfg.blk.vs sigok s.cs.validators first.id first.blk.hdr.height second.blk.commit = .ok ∧
      validateBlock cfg.blk sigok s.cs first.blk = .ok ∧
      complete cfg ch vh sigok s first second =
        (⟨advanceState ch vh s.cs first, pop s.pool, s.applied ++ [(first, second)]⟩, .applied)) ∨
    ((complete cfg ch vh sigok s first second).2 ≠ .applied ∧
      (complete cfg ch vh sigok s first second).1.cs = s.cs ∧
      (complete cfg ch vh sigok s first second).1.applied = s.applied) := by
  unfold complete
  simp only [Bool.not_eq_true']
  by_cases hc : second.hasCommit = false
  · rw [if_pos hc]; exact .inr ⟨nofun, rfl, rfl⟩
  rw [if_neg hc]
  split
  · rename_i hv
    by_cases hf : first.complete = false
    · rw [if_pos hf]; exact .inr ⟨nofun, rfl, rfl⟩
    rw [if_neg hf]
    split
    · rename_i hb
      exact .inl ⟨Bool.of_not_eq_false hc, Bool.of_not_eq_false hf, hv, hb, rfl⟩
    · exact .inr ⟨nofun, rfl, rfl⟩
  · exact .inr ⟨nofun, rfl, rfl⟩
  · cases s.pool.block first.blk.hdr.height with
    | none => cases cfg.redoTolerant <;> exact .inr ⟨nofun, rfl, rfl⟩
    | some cur => exact .inr ⟨nofun, rfl, rfl⟩

theorem setPower_nonneg (vals : List Validator) (pos : Nat) (pw : Int) (hpw : 0 ≤ pw)
    (h : ∀ v ∈ vals, 0 ≤ v.power) : ∀ v ∈ setPower vals pos pw, 0 ≤ v.power := by
  unfold setPower
  split
  · intro v hv
    rcases List.mem_or_eq_of_mem_set hv with hm | he
    · exact h v hm
    · subst he; exact hpw
  · exact h

end AnnVerif.Sync

-- `valsAt`, `prevId`, `ChainInv` are C13's own notions (the statements of Props/C13.lean name them, S4 is about
-- them): they keep its namespace although they stand here, beside the case lemma `iterate_inv` rests on.
namespace AnnVerif.C13
open AnnVerif AnnVerif.VoteSet AnnVerif.Block AnnVerif.Sync

/-- validators in force at height k+1, from the genesis set and the application's changes -/
def valsAt (ch : Changes) (g : List Validator) : Nat → List Validator
  | 0 => g
  | k + 1 => nextVals ch (valsAt ch g k) ((k : Int) + 1)

def prevId (genesisPrev : BlockID) (applied : List (Served × Served)) (k : Nat) : BlockID :=
  match k with
  | 0 => genesisPrev
  | j + 1 => match applied[j]? with
    | some (f, _) => f.id
    | none => genesisPrev

structure ChainInv (sigok : Nat → Vote → Bool) (ch : Changes) (g : List Validator) (gp : BlockID) (s : St) : Prop where
  height : s.cs.lastBlockHeight = (s.applied.length : Int)
  vals : s.cs.validators = valsAt ch g s.applied.length
  last : s.cs.lastBlockID = prevId gp s.applied s.applied.length
  each : ∀ (k : Nat) (f sec : Served), s.applied[k]? = some (f, sec) →
    f.blk.hdr.height = (k : Int) + 1 ∧
    f.blk.hdr.lastBlockID = prevId gp s.applied k ∧
    CommitJustifies sigok (valsAt ch g k) f.id ((k : Int) + 1) sec.blk.commit

theorem valsAt_nonneg (ch : Changes) (g : List Validator) (hg : ∀ v ∈ g, 0 ≤ v.power)
    (hch : ∀ h pos pw, ch h = some (pos, pw) → 0 ≤ pw) : ∀ k, ∀ v ∈ valsAt ch g k, 0 ≤ v.power := by
  intro k
  induction k with
  | zero => exact hg
  | succ k ih =>
    unfold valsAt nextVals
    cases hc : ch ((k : Int) + 1) with
    | none => exact ih
    | some pp => exact setPower_nonneg _ _ _ (hch _ pp.1 pp.2 hc) ih

theorem prevId_append (gp : BlockID) (l : List (Served × Served)) (x : Served × Served) (k : Nat)
    (hk : k ≤ l.length) : prevId gp (l ++ [x]) k = prevId gp l k := by
  cases k with
  | zero => rfl
  | succ j => simp only [prevId, List.getElem?_append_left (Nat.lt_of_succ_le hk)]

variable {sigok : Nat → Vote → Bool} {ch : Changes} {g : List Validator} {gp : BlockID}

theorem ChainInv.congr {s s' : St} (inv : ChainInv sigok ch g gp s) (hcs : s'.cs = s.cs)
    (happ : s'.applied = s.applied) : ChainInv sigok ch g gp s' := by
  obtain ⟨cs, _, applied⟩ := s'
  cases hcs
  cases happ
  exact ⟨inv.height, inv.vals, inv.last, inv.each⟩

theorem iterate_inv (cfg : Sync.Cfg) (vh : Int → Bytes) (hg : ∀ v ∈ g, 0 ≤ v.power)
    (hch : ∀ h pos pw, ch h = some (pos, pw) → 0 ≤ pw)
    (s : St) (first second : Served) (inv : ChainInv sigok ch g gp s) :
    ChainInv sigok ch g gp (complete cfg ch vh sigok s first second).1 := by
  rcases complete_cases cfg ch vh sigok s first second with ⟨_, _, hv, hvb, heq⟩ | ⟨_, h1, h2⟩
  · have hpos : ∀ val ∈ s.cs.validators, 0 ≤ val.power := by
      rw [inv.vals]; exact valsAt_nonneg ch g hg hch _
    have hj := verifyCommit_sound _ sigok _ _ _ _ hpos hv
    obtain ⟨_, hheight, _, hprev, _⟩ :=
      (validateBasic_eq_ok s.cs first.blk).mp ((validateBlock_eq_ok cfg.blk sigok s.cs first.blk).mp hvb).1
    have hh : first.blk.hdr.height = (s.applied.length : Int) + 1 := by rw [hheight, inv.height]
    rw [heq]
    have hlen : (s.applied ++ [(first, second)]).length = s.applied.length + 1 := List.length_append
    refine ⟨hlen ▸ hh, ?_, ?_, ?_⟩
    · show nextVals ch s.cs.validators first.blk.hdr.height = _
      rw [hlen, hh, inv.vals]; rfl
    · show first.id = _
      rw [hlen, prevId, List.getElem?_concat_length]
    · intro k f sec hk
      show _ ∧ f.blk.hdr.lastBlockID = prevId gp (s.applied ++ [(first, second)]) k ∧ _
      rcases getElem?_concat_eq_some.mp hk with hk | ⟨rfl, he⟩
      · rw [prevId_append gp _ _ k (Nat.le_of_lt (List.getElem?_eq_some_iff.mp hk).1)]
        exact inv.each k f sec hk
      · cases he
        refine ⟨hh, ?_, ?_⟩
        · rw [prevId_append gp _ _ _ (Nat.le_refl _), hprev, inv.last]
        · rw [← hh, ← inv.vals]; exact hj
  · exact inv.congr h1 h2

end AnnVerif.C13
