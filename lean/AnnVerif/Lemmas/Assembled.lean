/-
  The "assembled block has its parts" invariant of the consensus state machine (Model/Node.lean),
  over every run: whenever the node holds an assembled `ProposalBlock`, the part set it keeps is
  complete and is that block's — so `finalizeCommit` never hands an incomplete part set to
  `BlockStore.SaveBlock` (which panics on one, on the consensus routine).

  `Good` is kept by every handler (`handleMsg` for every message from every peer and from the own
  queue, `handleTimeout` for every timeout), hence by every run (`run_good`), for the repaired
  `defaultSetProposal` (cfg.proposalKeepsParts) and verified own parts (cfg.verifyOwnParts).
-/
import AnnVerif.Lemmas.NodeMoves

namespace AnnVerif.Node

structure Good (n : Node) : Prop where
  /-- repaired: own parts are checked against the header like a peer's; else `Move.parts` could
      complete a block under the header of another -/
  c1 : n.cfg.verifyOwnParts = true
  /-- repaired: a late proposal keeps a part set that is there; else `Move.openParts` could empty the
      part set of an assembled block -/
  c2 : n.cfg.proposalKeepsParts = true
  asm : ∀ b, n.proposalBlock = some b → n.partsComplete = true ∧ n.proposalParts = some b
  /-- so `finalizeCommit` has not taken `Move.saveIncomplete` -/
  nsp : savePanic ∉ n.out

/-- the converse of `Good.asm`: a node whose part set is complete holds the assembled block; so a
    node that waits in the Commit step for a block it does not hold has an INCOMPLETE part set - the
    hypothesis of "the parts arrive and it finalizes" (C12 P2) -/
def Cpl (n : Node) : Prop := n.partsComplete = true → n.proposalBlock.isSome = true

theorem not_mem_emit {l : List Emit} {e : Emit} (h : savePanic ∉ l) (he : e ≠ savePanic) : savePanic ∉ l ++ [e] :=
  fun hm => (List.mem_append.mp hm).elim h fun x => he (List.mem_singleton.mp x).symm

variable {timed : Prop} {off : VoteSet.Hist}

theorem Good.move {a b : Node} (m : Move timed off a b) (g : Good a) : Good b := by
  cases m with
  | saveIncomplete hb hc => exact absurd (g.asm _ hb).1 (by simp [hc])
  | panic _ hs => exact ⟨g.c1, g.c2, g.asm, not_mem_emit g.nsp hs⟩
  | wait _ _ _ _ _ hev =>
    refine ⟨g.c1, g.c2, g.asm, not_mem_emit g.nsp ?_⟩
    rcases hev with rfl | ⟨_, _, h⟩
    · exact nofun
    · exact h
  | propose => exact ⟨g.c1, g.c2, g.asm, not_mem_emit g.nsp nofun⟩
  | finalize => exact ⟨g.c1, g.c2, nofun, not_mem_emit (not_mem_emit g.nsp nofun) nofun⟩
  | dropBlock => exact ⟨g.c1, g.c2, nofun, g.nsp⟩
  | adoptLocked => exact ⟨g.c1, g.c2, fun _ hb => ⟨rfl, hb⟩, g.nsp⟩
  | openParts _ hk =>
    -- an assembled block means a part set is there, and the repaired code keeps it
    exact ⟨g.c1, g.c2, fun b hb => absurd ⟨g.c2, by rw [(g.asm b hb).2]; rfl⟩ hk, g.nsp⟩
  | parts _ hp => exact ⟨g.c1, g.c2, fun _ hb => by cases hb; exact ⟨rfl, hp g.c1⟩, g.nsp⟩
  | _ => exact ⟨g.c1, g.c2, g.asm, g.nsp⟩

theorem Cpl.move {a b : Node} (m : Move timed off a b) (g : Cpl a) : Cpl b := by
  cases m with
  | adoptLocked hl => exact fun _ => by rw [hl]; rfl
  | parts => exact fun _ => rfl
  | finalize | dropBlock | openParts => exact nofun
  | _ => exact g

theorem good_stepIn (n : Node) (i : In) (g : Good n) : Good (stepIn n i) := stepIn_keeps Good.move n i g

theorem run_good (ins : List In) : ∀ (n : Node), Good n → Good (ins.foldl stepIn n) := run_keeps Good.move ins

theorem init_good (height : Int) (vals : ValSet.ValSet) (me : Option Nat) (skip : Bool) :
    Good (init repaired height vals me skip) :=
  ⟨rfl, rfl, nofun, List.not_mem_nil⟩

theorem run_cpl (ins : List In) : ∀ (n : Node), Cpl n → Cpl (ins.foldl stepIn n) := run_keeps Cpl.move ins

theorem init_cpl (cfg : Cfg) (height : Int) (vals : ValSet.ValSet) (me : Option Nat) (skip : Bool) :
    Cpl (init cfg height vals me skip) := nofun

end AnnVerif.Node
