/-
  Lemmas for C13.S7: `reconstructLastCommit` succeeds on every commit `VerifyCommit` (with the slot
  check) accepts.
-/
import AnnVerif.Model.Sync
import AnnVerif.Lemmas.VoteCommit
namespace AnnVerif.Sync
open AnnVerif AnnVerif.VoteSet AnnVerif.Sync

/-- state of `reconstructLastCommit` after the first `j` slots of the commit -/
structure RInv (vals : List Validator) (pre : List (Option Vote)) (j : Nat) (vs : VoteSet) : Prop where
  len : vs.votes.length = vals.length
  valsEq : vs.vals = vals
  entryLen : ∀ k bv, lookup vs.byBlock k = some bv → bv.votes.length = vals.length
  slotsFree : ∀ i, j ≤ i → i < vals.length → vs.votes[i]? = some none
  entriesFree : ∀ k bv, lookup vs.byBlock k = some bv → ∀ i, j ≤ i → i < vals.length → bv.votes[i]? = some none
  complete : ∀ i v, i < j → pre[i]? = some (some v) →
    ∃ bv, lookup vs.byBlock (v.bid.key VoteSet.repaired) = some bv ∧ bv.votes[i]? = some (some v)

section
variable {vals : List Validator} {pre : List (Option Vote)} {j : Nat} {vs : VoteSet} {hist : Hist}

/-- The picture follows from the invariant of the vote set, once only votes of the first `j` slots
    have been offered and each precommit of those slots is in the tally of its block: a stored vote
    was offered by the validator of its slot, so the slots from `j` on are free. -/
theorem RInv.of_inv (hinv : Inv VoteSet.repaired hist vs) (hv : vs.vals = vals)
    (hoff : ∀ x ∈ hist, x.1.idx < (j : Int))
    (hc : ∀ i v, i < j → pre[i]? = some (some v) →
      ∃ bv, lookup vs.byBlock (v.bid.key VoteSet.repaired) = some bv ∧ bv.votes[i]? = some (some v)) :
    RInv vals pre j vs := by
  subst hv
  have early : ∀ (i : Nat) (v : Vote), Good hist vs i v → i < j := fun i v g =>
    Int.ofNat_lt.mp (g.idx ▸ hoff _ g.offered)
  refine ⟨hinv.len, rfl, hinv.entryLen, fun i hi hn => ?_, fun k bv hl i hi hn => ?_, hc⟩
  · refine getElem?_of_not_occ (hinv.len ▸ hn) fun h => ?_
    obtain ⟨w, hw⟩ := occ_iff.mp h
    exact absurd (early i w (hinv.slot i w hw)) (Nat.not_lt.mpr hi)
  · refine getElem?_of_not_occ (hinv.entryLen k bv hl ▸ hn) fun h => ?_
    obtain ⟨w, hw⟩ := occ_iff.mp h
    exact absurd (early i w (hinv.entrySlot k bv hl i w hw).1) (Nat.not_lt.mpr hi)

end

/-- Carried through the loop: the invariant `Inv`, that only votes of the slots visited have been
    offered, and that each of them is in the tally of its block. -/
theorem loop_ok (sigok : Nat → Vote → Bool) (vals : List Validator)
    (hpos : ∀ val ∈ vals, 0 ≤ val.power) (haddr : ∀ val ∈ vals, val.addr ≠ [])
    (height R : Int) (pre : List (Option Vote))
    (hp : SlotsPass true sigok height R vals 0 pre) :
    ∀ (rest : List (Option Vote)) (j : Nat) (vs : VoteSet) (hist : Hist),
      rest = pre.drop j → Inv VoteSet.repaired hist vs → SameParams (VoteSet.new height R 2 vals) vs →
      (∀ x ∈ hist, x.1.idx < (j : Int)) →
      (∀ i v, i < j → pre[i]? = some (some v) →
        ∃ bv, lookup vs.byBlock (v.bid.key VoteSet.repaired) = some bv ∧ bv.votes[i]? = some (some v)) →
      ∃ vs' hist', reconstructLoop VoteSet.repaired sigok rest vs = some vs' ∧
        RInv vals pre (j + rest.length) vs' ∧ Inv VoteSet.repaired hist' vs' := by
  intro rest
  induction rest with
  | nil =>
    intro j vs hist _ hinv hsp hoff hc
    exact ⟨vs, hist, rfl, .of_inv hinv hsp.vals.symm hoff hc, hinv⟩
  | cons x t ih =>
    intro j vs hist hrest hinv hsp hoff hc
    have hx : pre[j]? = some x := by rw [← List.head?_drop, ← hrest]; rfl
    have ht : t = pre.drop (j + 1) := by rw [← List.tail_drop, ← hrest]; rfl
    rw [show j + (x :: t).length = j + 1 + t.length from Nat.add_right_comm j t.length 1]
    have hj : (j : Int) < ((j + 1 : Nat) : Int) := by omega
    have below : ∀ i, i < j + 1 → i ≠ j → i < j := fun i hi e => Nat.lt_of_le_of_ne (Nat.le_of_lt_succ hi) e
    cases x with
    | none =>
      refine ih (j + 1) vs hist ht hinv hsp (fun x hx => Int.lt_trans (hoff x hx) hj) fun i v hi hv => ?_
      exact hc i v (below i hi fun e => nomatch (e ▸ hv).symm.trans hx) hv
    | some v =>
      obtain ⟨val, hval, a1, a2, a3, a4, a5⟩ := hp j v hx
      obtain ⟨hidx, hva⟩ := a5 rfl
      rw [Nat.add_zero] at a4 hidx
      obtain ⟨p1, p2, p3, p4⟩ := hsp
      have hr : RInv vals pre j vs := .of_inv hinv p4.symm hoff hc
      obtain ⟨hfree, hadd⟩ := hinv.addVote_first hidx (p4 ▸ hval) hva.symm
        (hva ▸ haddr val (List.mem_of_getElem? hval)) (a1.trans p1) (a2.trans p2) (a3.trans p3)
        (hr.slotsFree j (Nat.le_refl _) (List.getElem?_eq_some_iff.mp hval).1)
      have hi := addVote_inv (cfg := VoteSet.repaired) v true (p4 ▸ hpos) hinv
      rw [hadd] at hi
      simp only [reconstructLoop, show v.idx.toNat = j from congrArg Int.toNat hidx, a4, hadd]
      refine ih (j + 1) _ _ ht hi.1 (SameParams.trans ⟨p1, p2, p3, p4⟩ hi.2) (fun x hx => ?_) fun i w hi hw => ?_
      · rcases List.mem_append.mp hx with h | h
        · exact Int.lt_trans (hoff x h) hj
        · cases List.mem_singleton.mp h
          exact hidx ▸ hj
      · rw [applyTally_byBlock, lookup_insert]
        by_cases e : i = j
        · subst e
          cases hx.symm.trans hw
          rw [BlockVotes.add_empty v val.power hfree]
          exact ⟨_, if_pos rfl, List.getElem?_set_self (List.getElem?_eq_some_iff.mp hfree).1⟩
        · -- a vote recorded earlier stays: in the entry `v` is added to, or in another
          obtain ⟨bvo, hlo, hvo⟩ := hc i w (below i hi e) hw
          by_cases hk : w.bid.key VoteSet.repaired = v.bid.key VoteSet.repaired
          · rw [hk] at hlo
            rw [tallyOf_of_lookup hlo]
            exact ⟨_, if_pos hk, BlockVotes.add_keeps v val.power hvo⟩
          · exact ⟨bvo, (if_neg hk).trans hlo, hvo⟩

theorem reconstruct_eq (cfg : VoteSet.Cfg) (sigok : Nat → Vote → Bool) (vals : List Validator) (height : Int)
    (c : Commit) {f : Vote} (hf : firstPrecommit c.precommits = some f) :
    reconstruct cfg sigok vals height c =
      (match reconstructLoop cfg sigok c.precommits (VoteSet.new height f.round 2 vals) with
       | some vs => vs.maj23.isSome
       | none => false) := by
  unfold reconstruct
  rw [hf]
  rfl

theorem reconstruct_ok (sigok : Nat → Vote → Bool) (vals : List Validator)
    (hpos : ∀ val ∈ vals, 0 ≤ val.power) (haddr : ∀ val ∈ vals, val.addr ≠ [])
    (b : BlockID) (height : Int) (c : Commit) {f : Vote} (hf : firstPrecommit c.precommits = some f)
    (hp : SlotsPass true sigok height f.round vals 0 c.precommits)
    (htally : tallyB b (powers vals) c.precommits > total vals * 2 / 3) :
    reconstruct VoteSet.repaired sigok vals height c = true := by
  have hpp := powers_nonneg vals hpos
  obtain ⟨j, v, hj, hvb⟩ := tallyB_two_thirds_exists hpos htally
  obtain ⟨vs', hist', hloop, hr, hinv⟩ := loop_ok sigok vals hpos haddr height f.round c.precommits hp
    c.precommits 0 _ [] rfl (inv_new VoteSet.repaired height f.round 2 vals) (SameParams.refl _)
    (fun _ h => nomatch h) (fun i v hi => absurd hi (Nat.not_lt_zero i))
  rw [reconstruct_eq _ _ _ _ _ hf, hloop]
  rw [Nat.zero_add] at hr
  show vs'.maj23.isSome = true
  cases hm : vs'.maj23 with
  | some _ => rfl
  | none =>
    -- otherwise the entry of `b`, which holds every precommit for `b`, would be below the quorum
    exfalso
    obtain ⟨bv, hl, _⟩ := hr.complete j v (List.getElem?_eq_some_iff.mp hj).1 hj
    have hsum := hinv.entrySum _ _ hl
    have hnone := hinv.majNone hm _ _ hl
    rw [hr.valsEq] at hsum hnone
    have hle : tallyB b (powers vals) c.precommits ≤ tally (powers vals) bv.votes := by
      refine tallyB_le_tally b _ hpp _ _ fun j' v' hj' hb' => ?_
      obtain ⟨bv', hl', hv'⟩ := hr.complete j' v' (List.getElem?_eq_some_iff.mp hj').1 hj'
      rw [hb', ← hvb, hl] at hl'
      cases hl'
      exact occ_of_get hv'
    exact absurd (Int.lt_of_lt_of_le htally (Int.le_trans hle (hsum ▸ Int.lt_add_one_iff.mp hnone)))
      (Int.lt_irrefl _)

end AnnVerif.Sync
