/-
  The pool offers each account's transactions in strictly CONSECUTIVE nonce order starting at the
  account's current nonce: `PCons`. Submissions with any nonce, admin requests and flushes keep it in
  every variant. The commit does not keep it, it establishes it from scratch, for ANY transaction ids
  included and ANY account nonces left behind, where `cfg.demotesGaps = true`: there
  `demoteUnexecutables` keeps of each pending queue only the run of consecutive nonces from the
  account's new nonce (`consecPrefix`).
-/
import AnnVerif.Lemmas.PoolInv

namespace AnnVerif.Pool

structure PCons (p : Pool) : Prop where
  consec : ∀ a, Consec (p.pending a) (nonceOf p a)

theorem qHas_consec (q : Queue) (n s : Nat) (h : Consec q n) : qHas q s = true ↔ n ≤ s ∧ s < n + q.length := by
  fun_induction Consec q n with
  | case1 => simp [qHas]
  | case2 t r n ih =>
    have := ih h.2
    simp only [qHas, List.any_cons, Bool.or_eq_true, beq_iff_eq, List.length_cons] at this ⊢
    rw [h.1, this]
    omega

theorem qInsert_consec (q : Queue) (n : Nat) (t : Tx) (h : Consec q n) (ht : t.nonce = n + q.length) :
    Consec (qInsert q t) n := by
  fun_induction Consec q n with
  | case1 => exact ⟨ht, trivial⟩
  | case2 x r n ih =>
    rw [List.length_cons] at ht
    rw [qInsert, if_neg (by have := h.1; omega)]
    exact ⟨h.1, ih h.2 (by omega)⟩

/-- `ready` starts where `acc` ends, and `pq` ends no later: the filter on `pq` drops nothing, and each
    insertion lands at the end of `acc` -/
theorem foldl_qInsert_consec (pq : Queue) (n : Nat) (hpq : Consec pq n) :
    ∀ (ready : Queue) (acc : Queue), Consec ready (n + acc.length) → Consec acc n → pq.length ≤ acc.length →
      Consec ((ready.filter (fun t => !qHas pq t.nonce)).foldl qInsert acc) n := by
  intro ready
  induction ready with
  | nil => intro acc _ ha _; exact ha
  | cons t r ih =>
    intro acc hr ha hl
    obtain ⟨ht, hr'⟩ := hr
    have hin : qHas pq t.nonce = false := by
      rw [ht, ← Bool.not_eq_true, qHas_consec pq n _ hpq]
      omega
    rw [List.filter_cons, hin]
    refine ih (qInsert acc t) ?_ (qInsert_consec acc n t ha ht) ?_
    · rw [qInsert_length]
      exact hr'
    · rw [qInsert_length]
      omega

/-- what `promoteExecutables` does with the ready run: the nonces already pending are dropped, the
    rest starts where the queue ends -/
theorem merge_consec (pq : Queue) (n : Nat) (hpq : Consec pq n) :
    ∀ (ready : Queue) (s : Nat), Consec ready s → n ≤ s → s ≤ n + pq.length →
      Consec ((ready.filter (fun t => !qHas pq t.nonce)).foldl qInsert pq) n := by
  intro ready
  induction ready with
  | nil => intro s _ _ _; exact hpq
  | cons t r ih =>
    intro s hr hs hle
    by_cases he : s = n + pq.length
    · exact foldl_qInsert_consec pq n hpq _ pq (he ▸ hr) hpq (Nat.le_refl _)
    · have hin : qHas pq t.nonce = true := by
        rw [hr.1, qHas_consec pq n _ hpq]
        omega
      rw [List.filter_cons, hin]
      exact ih (s + 1) hr.2 (by omega) (by omega)

theorem promoteOne_pcons (cfg : Cfg) (p : Pool) (a : Nat) (h : PCons p) : PCons (promoteOne cfg p a) :=
  promoteOne_cases cfg p a h fun _ ready _ _ _ _ hr =>
    ⟨forall_mSet (R := fun b q => Consec q (nonceOf p b))
      (merge_consec (p.pending a) (nonceOf p a) (h.consec a) ready (nonceOf p a) hr (Nat.le_refl _)
        (Nat.le_add_right _ _)) h.consec⟩

theorem Frame.pcons {p q : Pool} (f : Frame p q) (h : PCons p) : PCons q := by
  refine ⟨fun a => ?_⟩
  rw [f.pending, nonceOf_congr f.nonces]
  exact h.consec a

theorem reAdd_loop_pending (cfg : Cfg) (l : List Tx) (p : Pool) :
    (l.foldl (reAdd cfg) p).pending = p.pending ∧ (l.foldl (reAdd cfg) p).nonces = p.nonces :=
  List.foldlRecOn (motive := fun q => q.pending = p.pending ∧ q.nonces = p.nonces) l (reAdd cfg) ⟨rfl, rfl⟩
    fun q hq t _ => reAdd_preserves (I := fun q => q.pending = p.pending ∧ q.nonces = p.nonces) (fun _ _ h => h)
      ⟨(addWaiting_frame cfg q t).pending.trans hq.1, (addWaiting_frame cfg q t).nonces.trans hq.2⟩

theorem demoteOne_pending (cfg : Cfg) (hd : cfg.demotesGaps = true) (p : Pool) (a : Nat) :
    (demoteOne cfg p a).pending = mSet p.pending a (consecPrefix (qForward (p.pending a) (nonceOf p a)).1 (nonceOf p a)).1 ∧
    (demoteOne cfg p a).nonces = p.nonces := by
  rw [demoteOne_eq rfl rfl]
  obtain ⟨hpend, hnonces⟩ := reAdd_loop_pending cfg _ _
  refine ⟨hpend.trans ?_, hnonces⟩
  rw [gapSplit_demotes hd]

theorem foldl_demote_pcons (cfg : Cfg) (hd : cfg.demotesGaps = true) : ∀ (accts : List Nat) (p : Pool),
    (∀ a, a ∉ accts → Consec (p.pending a) (nonceOf p a)) → PCons (accts.foldl (demoteOne cfg) p) := by
  intro accts
  induction accts with
  | nil => intro p h; exact ⟨fun a => h a (by simp)⟩
  | cons x r ih =>
    intro p h
    rw [List.foldl_cons]
    apply ih
    intro a ha
    obtain ⟨e1, e2⟩ := demoteOne_pending cfg hd p x
    rw [nonceOf_congr e2, e1]
    by_cases e : a = x
    · subst e
      rw [mSet_same]
      exact consecPrefix_consec _ _
    · rw [mSet_other _ _ _ _ e]
      exact h a (by simp [e, ha])

/-- every account with a pending transaction gets its turn in the demotion -/
theorem commit_pcons (cfg : Cfg) (hd : cfg.demotesGaps = true) (p : Pool) (included : List Nat)
    (nonces : List (Nat × Nat)) (hs : ∀ a, a ∉ accounts → p.pending a = []) :
    PCons (commit cfg p included nonces) := by
  refine commit_cases (I₀ := fun q => ∀ a, a ∉ accounts → q.pending a = []) (fun _ _ => hs)
    (fun _ _ _ a ha => congrArg (List.filter _) (hs a ha))
    (fun q hq => foldl_demote_pcons cfg hd _ q fun a ha => ?_) fun q a _ hq => promoteOne_pcons cfg q a hq
  have he : q.pending a = [] := by
    by_cases hacc : a ∈ accounts
    · exact Classical.not_not.1 fun hne => ha ((mem_mKeys _ a).2 ⟨hacc, hne⟩)
    · exact hq a hacc
  rw [he]
  trivial

theorem submit_pcons (cfg : Cfg) (p : Pool) (t : Tx) (h : PCons p) : PCons (submit cfg p t).1 :=
  submit_preserves (I := PCons) (fun _ _ hq => ⟨hq.consec⟩) (fun q hq => promoteOne_pcons cfg q _ hq)
    ((addWaiting_frame cfg p t).pcons h) h

theorem submitAdmin_pcons (p : Pool) (id : Nat) (h : PCons p) : PCons (submitAdmin p id).1 :=
  submitAdmin_cases p id h fun _ => ⟨h.consec⟩

theorem flush_pcons (p : Pool) : PCons (flush p) := ⟨fun _ => trivial⟩

end AnnVerif.Pool
