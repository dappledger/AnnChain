/-
  The queue functions of the pool model (`qInsert`, `qForward`, `qReadyN`, `gapSplit`) and its
  account maps (`mSet`, `mCount`), each with the facts the invariants use it through: membership,
  length, sortedness, and what a split puts back together.
-/
import AnnVerif.Model.Pool
import AnnVerif.Lemmas.Logic
namespace AnnVerif.Pool

abbrev Sorted (q : Queue) : Prop := q.Pairwise (fun a b => a.nonce < b.nonce)

theorem sorted_distinct (q : Queue) (h : Sorted q) : q.Pairwise (fun a b => a.nonce ≠ b.nonce) :=
  h.imp (fun h => Nat.ne_of_lt h)

theorem qHas_iff (q : Queue) (n : Nat) : qHas q n = true ↔ ∃ x ∈ q, x.nonce = n := by
  simp [qHas]

theorem qHas_eq_false (q : Queue) (n : Nat) : qHas q n = false ↔ ∀ x ∈ q, x.nonce ≠ n := by
  simp [qHas]

theorem qInsert_length (q : Queue) (t : Tx) : (qInsert q t).length = q.length + 1 := by
  fun_induction qInsert q t with
  | case1 => rfl
  | case2 => rfl
  | case3 x r h ih => rw [List.length_cons, ih, List.length_cons]

theorem mem_qInsert (q : Queue) (t x : Tx) : x ∈ qInsert q t ↔ x = t ∨ x ∈ q := by
  fun_induction qInsert q t with
  | case1 => simp
  | case2 => simp
  | case3 y r h ih => rw [List.mem_cons, ih, List.mem_cons, or_left_comm]

theorem qInsert_sorted (q : Queue) (t : Tx) (hs : Sorted q) (hn : qHas q t.nonce = false) :
    Sorted (qInsert q t) := by
  fun_induction qInsert q t with
  | case1 => exact List.pairwise_singleton _ _
  | case2 y r hlt =>
    refine List.pairwise_cons.2 ⟨fun b hb => ?_, hs⟩
    rcases List.mem_cons.1 hb with rfl | hb
    · exact hlt
    · exact Nat.lt_trans hlt ((List.pairwise_cons.1 hs).1 b hb)
  | case3 y r hge ih =>
    rw [qHas_eq_false] at hn
    rw [Sorted, List.pairwise_cons] at hs
    refine List.pairwise_cons.2 ⟨fun b hb => ?_,
      ih hs.2 ((qHas_eq_false _ _).2 fun x hx => hn x (List.mem_cons_of_mem _ hx))⟩
    rcases (mem_qInsert r t b).1 hb with rfl | hb
    · have := hn y List.mem_cons_self
      omega
    · exact hs.1 b hb

theorem foldl_qInsert_length : ∀ (l : List Tx) (q : Queue), (l.foldl qInsert q).length = q.length + l.length := by
  intro l
  induction l with
  | nil => intro q; rfl
  | cons t r ih =>
    intro q
    rw [List.foldl_cons, ih, qInsert_length, List.length_cons]
    omega

theorem mem_foldl_qInsert : ∀ (l : List Tx) (q : Queue) (x : Tx), x ∈ l.foldl qInsert q ↔ x ∈ q ∨ x ∈ l := by
  intro l
  induction l with
  | nil => intro q x; simp
  | cons t r ih =>
    intro q x
    rw [List.foldl_cons, ih, mem_qInsert, List.mem_cons, or_comm (a := x = t), or_assoc]

theorem foldl_qInsert_sorted : ∀ (l : List Tx) (q : Queue), Sorted q →
    (∀ t ∈ l, qHas q t.nonce = false) → l.Pairwise (fun a b => a.nonce ≠ b.nonce) →
    Sorted (l.foldl qInsert q) := by
  intro l
  induction l with
  | nil => intro q hs _ _; exact hs
  | cons t r ih =>
    intro q hs hq hd
    rw [List.pairwise_cons] at hd
    refine ih _ (qInsert_sorted q t hs (hq t List.mem_cons_self)) (fun t' ht' => ?_) hd.2
    rw [qHas_eq_false]
    intro x hx
    rcases (mem_qInsert q t x).1 hx with rfl | hx
    · exact hd.1 t' ht'
    · exact (qHas_eq_false _ _).1 (hq t' (List.mem_cons_of_mem _ ht')) x hx

theorem mem_qForward_keep (q : Queue) (th : Nat) (x : Tx) : x ∈ (qForward q th).1 ↔ x ∈ q ∧ th ≤ x.nonce := by
  simp [qForward]

theorem mem_qForward_old (q : Queue) (th : Nat) (x : Tx) : x ∈ (qForward q th).2 ↔ x ∈ q ∧ x.nonce < th := by
  simp [qForward]

theorem qForward_sublist (q : Queue) (th : Nat) : (qForward q th).1.Sublist q := List.filter_sublist

def Consec : Queue → Nat → Prop
  | [], _ => True
  | t :: r, n => t.nonce = n ∧ Consec r (n + 1)

theorem readyRun_spec (q : Queue) (n c : Nat) :
    readyRun q n c <+: q ∧ (readyRun q n c).length ≤ c ∧ Consec (readyRun q n c) n := by
  fun_induction readyRun q n c with
  | case3 x r c ih => exact ⟨List.cons_prefix_cons.2 ⟨rfl, ih.1⟩, Nat.succ_le_succ ih.2.1, rfl, ih.2.2⟩
  | _ => exact ⟨List.nil_prefix, Nat.zero_le _, trivial⟩

theorem qReadyN_spec (q : Queue) (start count : Nat) (hq : ∀ x ∈ q, start ≤ x.nonce) :
    (qReadyN q start count).2 ++ (qReadyN q start count).1 = q ∧
    (qReadyN q start count).2.length ≤ count ∧ Consec (qReadyN q start count).2 start := by
  unfold qReadyN
  cases q with
  | nil => exact ⟨rfl, Nat.zero_le _, trivial⟩
  | cons x r =>
    refine iteInduction
      (motive := fun p : Queue × Queue => p.2 ++ p.1 = x :: r ∧ p.2.length ≤ count ∧ Consec p.2 start)
      (fun _ => ⟨rfl, Nat.zero_le _, trivial⟩) fun hc => ?_
    -- the lowest nonce is not above `start`, and nothing in the queue is below it
    have hx : x.nonce = start := by
      have := hq x List.mem_cons_self
      omega
    obtain ⟨hpre, hlen, hrun⟩ := readyRun_spec (x :: r) x.nonce count
    exact ⟨List.prefix_iff_eq_append.1 hpre, hlen, hx ▸ hrun⟩

theorem consecPrefix_append (q : Queue) (n : Nat) : (consecPrefix q n).1 ++ (consecPrefix q n).2 = q := by
  fun_induction consecPrefix q n with
  | case1 => rfl
  | case2 t r ih => exact congrArg (t :: ·) ih
  | case3 => rfl

theorem consecPrefix_consec (q : Queue) (n : Nat) : Consec (consecPrefix q n).1 n := by
  fun_induction consecPrefix q n with
  | case1 => trivial
  | case2 t r ih => exact ⟨rfl, ih⟩
  | case3 => trivial

theorem gapSplit_demotes {cfg : Cfg} (hd : cfg.demotesGaps = true) (q : Queue) (n : Nat) :
    gapSplit cfg q n = consecPrefix q n :=
  if_pos hd

theorem gapSplit_append (cfg : Cfg) (q : Queue) (n : Nat) : (gapSplit cfg q n).1 ++ (gapSplit cfg q n).2 = q := by
  unfold gapSplit
  refine iteInduction (motive := fun s : Queue × Queue => s.1 ++ s.2 = q) (fun _ => consecPrefix_append q n) fun _ => ?_
  split
  · exact List.append_nil q
  · rfl

theorem mSet_same (m : AccMap) (a : Nat) (q : Queue) : mSet m a q a = q := by simp [mSet]
theorem mSet_other (m : AccMap) (a b : Nat) (q : Queue) (h : b ≠ a) : mSet m a q b = m b := by simp [mSet, h]

theorem mSet_self (m : AccMap) (a : Nat) : mSet m a (m a) = m :=
  funext fun _ => ite_eq_right_iff.2 fun e => e ▸ rfl

theorem mSet_mSet (m : AccMap) (a : Nat) (q q' : Queue) : mSet (mSet m a q) a q' = mSet m a q' := by
  funext b
  unfold mSet
  split <;> rfl

theorem forall_mSet {R : Nat → Queue → Prop} {m : AccMap} {a : Nat} {q : Queue} (hq : R a q) (hm : ∀ b, R b (m b)) :
    ∀ b, R b (mSet m a q b) :=
  fun b => iteInduction (motive := R b) (fun e => e ▸ hq) fun _ => hm b

theorem accounts_nodup : accounts.Nodup := by decide

theorem mCount_mSet (m : AccMap) (a : Nat) (q : Queue) (ha : a ∈ accounts) :
    mCount (mSet m a q) + (m a).length = mCount m + q.length := by
  have := sum_update accounts accounts_nodup (fun b => (m b).length) (fun b => (mSet m a q b).length) a ha
    (fun b hb => by rw [mSet_other _ _ _ _ hb])
  rw [mSet_same] at this
  exact this

theorem mCount_mono (m m' : AccMap) (hle : ∀ a, (m' a).length ≤ (m a).length) : mCount m' ≤ mCount m := by
  unfold mCount
  generalize accounts = l
  induction l with
  | nil => exact Nat.le_refl _
  | cons x r ih =>
    simp only [List.map_cons, List.sum_cons]
    have := hle x
    omega

theorem mem_mKeys (m : AccMap) (a : Nat) : a ∈ mKeys m ↔ a ∈ accounts ∧ m a ≠ [] := by
  simp [mKeys]

theorem mKeys_sub (m : AccMap) : ∀ a ∈ mKeys m, a ∈ accounts := fun a ha => ((mem_mKeys m a).1 ha).1

theorem nonceOf_congr {p q : Pool} (h : q.nonces = p.nonces) (a : Nat) : nonceOf q a = nonceOf p a := by
  unfold nonceOf
  rw [h]

end AnnVerif.Pool
