/-
  Refinement: a trie that satisfies the invariant holds exactly a map of byte keys (`Refines`). Updates
  keep that, so the trie an update sequence builds refines the map the sequence describes; and a trie
  that refines a map is determined by it, holds no empty value if the map holds none, and is small if
  the keys and values of the map are.
-/
import AnnVerif.Lemmas.TrieDelete
import AnnVerif.Lemmas.TrieCanon
import AnnVerif.Lemmas.TrieBound

namespace AnnVerif.C11
open AnnVerif

/-- the map after the update `w` (key, value): an empty value deletes the key. The map an update sequence
    `ws` describes is `ws.foldl mapUpdate fun _ => none`. -/
def mapUpdate (m : Bytes → Option Bytes) (w : Bytes × Bytes) : Bytes → Option Bytes :=
  fun q => if q = w.1 then (if w.2.isEmpty then none else some w.2) else m q

end AnnVerif.C11

namespace AnnVerif.Trie

/-- `t` satisfies the invariant and holds exactly the map `m`: a terminated nibble path reads `v` iff it
    is the path of a byte key that `m` takes to `v` -/
structure Refines (t : Node) (m : Bytes → Option Bytes) : Prop where
  wf : WF t
  br : Br t
  reads : ∀ k, TermKey k → ∀ v, getN t k = some v ↔ ∃ q, k = keybytesToHex q ∧ m q = some v

variable {t : Node} {m : Bytes → Option Bytes}

theorem refines_empty : Refines .empty (fun _ => none) :=
  ⟨trivial, trivial, fun k _ v => by rw [getN_empty]; simp⟩

theorem Refines.lookup (h : Refines t m) (q : Bytes) : lookup t q = m q := by
  rw [lookup_eq_getN h.wf]
  refine Option.ext fun v => ?_
  rw [h.reads _ (tk_keybytesToHex q)]
  constructor
  · rintro ⟨q', e, hm⟩
    rwa [keybytesToHex_inj e]
  · exact fun hm => ⟨q, rfl, hm⟩

theorem Refines.update (h : Refines t m) (key value : Bytes) :
    Refines (update t key value) (C11.mapUpdate m (key, value)) := by
  have u := update_ok h.wf h.br key value
  refine ⟨u.wf, u.br, fun k hk v => ?_⟩
  rw [u.get k hk]
  unfold C11.mapUpdate
  by_cases e : k = keybytesToHex key
  · rw [if_pos e]
    constructor
    · exact fun hx => ⟨key, e, by rw [if_pos rfl]; exact hx⟩
    · rintro ⟨q, hq, hx⟩
      rwa [if_pos (keybytesToHex_inj (hq.symm.trans e))] at hx
  · rw [if_neg e, h.reads k hk]
    refine exists_congr fun q => and_congr_right fun hq => ?_
    rw [if_neg (show q ≠ key from fun eq => e (eq ▸ hq))]

theorem Refines.unique {t1 t2 : Node} (h1 : Refines t1 m) (h2 : Refines t2 m) : t1 = t2 :=
  canon h1.wf h1.br h2.wf h2.br fun k hk => Option.ext fun v => (h1.reads k hk v).trans (h2.reads k hk v).symm

theorem Refines.noEmpty (h : Refines t m) (hm : ∀ q, m q ≠ some []) : NoEmpty t := by
  intro k hk he
  obtain ⟨q, _, hq⟩ := (h.reads k hk []).mp he
  exact hm q hq

/-- a byte key of `n` bytes is a path of `2 * n + 1` nibbles -/
theorem Refines.small (H : Bytes → Bytes) (Hlen : ∀ x, (H x).length = 32) (h : Refines t m) {K V : Nat}
    (hK : K ≤ 2 ^ 32) (hV : V ≤ 2 ^ 32) (hm : ∀ q v, m q = some v → 2 * q.length + 1 ≤ K ∧ v.length ≤ V) :
    SmallT H t := by
  refine bnd_small H Hlen hK hV t (cb_bnd t h.wf h.br fun r v hr hg => ?_)
  obtain ⟨q, rfl, hq⟩ := (h.reads r hr v).mp hg
  rw [keybytesToHex_length]
  exact hm q v hq

end AnnVerif.Trie

namespace AnnVerif.C11
open AnnVerif

/-- the trie an update sequence builds -/
def build (ws : List (Bytes × Bytes)) : Trie.Node := ws.foldl (fun t w => Trie.update t w.1 w.2) .empty

theorem build_refines (ws : List (Bytes × Bytes)) : Trie.Refines (build ws) (ws.foldl mapUpdate fun _ => none) := by
  suffices H : ∀ (ws : List (Bytes × Bytes)) t m, Trie.Refines t m →
      Trie.Refines (ws.foldl (fun t w => Trie.update t w.1 w.2) t) (ws.foldl mapUpdate m) from
    H ws _ _ Trie.refines_empty
  intro ws
  induction ws with
  | nil => exact fun _ _ h => h
  | cons w ws ih => exact fun _ _ h => ih _ _ (h.update w.1 w.2)

theorem map_some_mem (ws : List (Bytes × Bytes)) (m : Bytes → Option Bytes) (q v : Bytes)
    (h : ws.foldl mapUpdate m q = some v) : m q = some v ∨ ∃ w ∈ ws, w.1 = q ∧ w.2 = v ∧ v ≠ [] := by
  induction ws generalizing m with
  | nil => exact Or.inl h
  | cons w ws ih =>
    rcases ih _ h with h' | ⟨w', hw', e⟩
    · unfold mapUpdate at h'
      by_cases hq : q = w.1
      · rw [if_pos hq] at h'
        by_cases he : w.2.isEmpty
        · rw [if_pos he] at h'; cases h'
        · rw [if_neg he] at h'
          injection h' with h'
          exact Or.inr ⟨w, by simp, hq.symm, h', by rw [← h']; simpa using he⟩
      · rw [if_neg hq] at h'; exact Or.inl h'
    · exact Or.inr ⟨w', by simp [hw'], e⟩

end AnnVerif.C11
