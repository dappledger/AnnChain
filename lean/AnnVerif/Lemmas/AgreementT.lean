/-
  Agreement for histories WITH TIME.

  The static rule A3 of Lemmas/Agreement.lean asks for the unlocking polka in a round STRICTLY
  before the round of the deviating prevote. The implementation (and Tendermint) is more liberal:
  a locked validator that has not prevoted yet in its current round r' unlocks when it sees +2/3
  prevotes for something else in round r' itself (`addVote`: lockedRound < vote.Round ≤ cs.Round).
  As a static fact about the finished history that rule is circular - the prevotes of a round could
  justify each other - and what makes it sound is causality: the polka has to be there BEFORE the
  prevote it releases. This file states the honest rules over timed vote events, with the
  unlocking polka in a round r'' with r < r'' ≤ r' made of prevotes cast strictly earlier, and
  proves by induction on time what agreement (`C01.agreement_one_height_timed`) rests on. This is
  the form the node model can discharge (Props/C04 L8, L10: the justification is in the node's own
  vote sets when the vote is signed).
-/
import AnnVerif.Lemmas.Agreement
namespace AnnVerif.AgreementT
open AnnVerif.Fairness AnnVerif.Agreement
open Classical

variable {Block : Type}

section
variable {R : Type} [LT R] (N : Nat) (w : Nat → Int) (pv pc : Nat → R → Option Block → Nat → Prop)

/-- more than two thirds of the power had prevoted `x` in round `r` strictly before time `t`, for
    vote events `pv validator round block time` over rounds of any type -/
def PolkaAt (r : R) (x : Option Block) (t : Nat) : Prop :=
  3 * pow N w (fun j => ∃ s, s < t ∧ pv j r x s) > 2 * S N w

/-- Agreement from the timed rules, for rounds of any type with a trichotomous `<` (`Nat` in
    `THistory` below, `Int` in the node model). Once `b` has a commit quorum in round `r`, no polka
    for anything else ever forms in a later round - by induction on the TIME at which it would be
    complete: one of its prevotes is by an honest member of the quorum, who was released by a polka
    of a later round that was complete strictly earlier. The induction being on time, `lock` needs
    `r < r''` only: the bound `r'' ≤ r'` of `HonestRules.lock`, which the node guarantees, is not used. -/
theorem agreement_timed (tri : ∀ a b : R, a < b ∨ a = b ∨ b < a) (hw : ∀ j, j < N → 0 ≤ w j)
    (F : Nat → Prop) (hF : 3 * pow N w F < S N w)
    (unique : ∀ j r x y s s', ¬ F j → pc j r x s → pc j r y s' → x = y)
    (justified : ∀ j r b t, ¬ F j → pc j r (some b) t → ∃ t', PolkaAt N w pv r (some b) t')
    (lock : ∀ j r b t r' x t', ¬ F j → pc j r (some b) t → r < r' → pv j r' x t' → x ≠ some b →
      ∃ r'' y, r < r'' ∧ y ≠ some b ∧ PolkaAt N w pv r'' y t')
    (r r' : R) (b b' : Block) (hq : 3 * pow N w (fun j => ∃ s, pc j r (some b) s) > 2 * S N w)
    (hq' : 3 * pow N w (fun j => ∃ s, pc j r' (some b') s) > 2 * S N w) : b = b' := by
  refine agreement_of_no_later_polka tri N w hw F hF (fun r b j => ∃ s, pc j r (some b) s)
    (fun r b => ∃ t, PolkaAt N w pv r (some b) t)
    (fun j r _ _ hf ⟨s, h⟩ ⟨s', h'⟩ => Option.some.inj (unique j r _ _ s s' hf h h'))
    (fun j r b hf ⟨s, h⟩ => justified j r b s hf h) (fun r b hq r' b' hlt hne ⟨t, hp⟩ => ?_) r r' b b' hq hq'
  have later : ∀ t r', r < r' → ∀ y, y ≠ some b → ¬ PolkaAt N w pv r' y t := by
    intro t
    induction t using Nat.strongRecOn with
    | _ t ih =>
      intro r' hlt y hy hpolka
      obtain ⟨j, _, ⟨s0, hpc⟩, ⟨s, hs, hpv⟩, hf⟩ := quorum_intersection N w hw F _ _ hF hq hpolka
      obtain ⟨r'', z, h1, hz, hp⟩ := lock j r b s0 r' y s hf hpc hlt hpv hy
      exact ih s hs r'' h1 z hz hp
  exact later t r' hlt (some b') (fun e => hne (Option.some.inj e)) hp
end

/-- timed vote events of one height: validator, round, block (`none` = nil), time -/
structure THistory (Block : Type) where
  prevote : Nat → Nat → Option Block → Nat → Prop
  precommit : Nat → Nat → Option Block → Nat → Prop

section
variable (N : Nat) (w : Nat → Int) (F : Nat → Prop) (H : THistory Block)

def PolkaBefore (r : Nat) (x : Option Block) (t : Nat) : Prop :=
  3 * pow N w (fun j => ∃ s, s < t ∧ H.prevote j r x s) > 2 * S N w

def CommitQuorum (r : Nat) (b : Block) : Prop :=
  3 * pow N w (fun j => ∃ s, H.precommit j r (some b) s) > 2 * S N w

structure HonestRules : Prop where
  /-- A1 (C04 L11 in a crash-free run, C03 across restarts): at most one prevote and one precommit per
      round, whenever cast -/
  prevote_unique : ∀ j r x y s s', ¬ F j → H.prevote j r x s → H.prevote j r y s' → x = y
  precommit_unique : ∀ j r x y s s', ¬ F j → H.precommit j r x s → H.precommit j r y s' → x = y
  /-- A2 (C04 L1, over runs L8): a block is precommitted only when its polka of that round is already there -/
  precommit_polka : ∀ j r b t, ¬ F j → H.precommit j r (some b) t → PolkaBefore N w H r (some b) t
  /-- A3 (C04 L2, over runs L10): after precommitting `b` in round `r`, a prevote for something else in a later
      round `r'` is cast only when a polka for something else, of a round in (r, r'], is already there -/
  lock : ∀ j r b t r' x t', ¬ F j → H.precommit j r (some b) t → r < r' → H.prevote j r' x t' → x ≠ some b →
    ∃ r'' y, r < r'' ∧ r'' ≤ r' ∧ y ≠ some b ∧ PolkaBefore N w H r'' y t'

theorem agreement (hw : ∀ j, j < N → 0 ≤ w j) (hF : 3 * pow N w F < S N w)
    (rules : HonestRules N w F H) (r r' : Nat) (b b' : Block)
    (hq : CommitQuorum N w H r b) (hq' : CommitQuorum N w H r' b') : b = b' :=
  agreement_timed N w H.prevote H.precommit Nat.lt_trichotomy hw F hF rules.precommit_unique
    (fun j r b t hf h => ⟨t, rules.precommit_polka j r b t hf h⟩)
    (fun j r b t r' x t' hf hpc hlt hpv hx =>
      (rules.lock j r b t r' x t' hf hpc hlt hpv hx).imp fun _ => Exists.imp fun _ h => ⟨h.1, h.2.2⟩)
    r r' b b' hq hq'

end

end AnnVerif.AgreementT
