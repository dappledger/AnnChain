/-
  Runs of one node: what the run theorems of C04, C08, C12 and C01 quantify over. A run is
  `ins.foldl stepIn n`, from `Node.start …` (NodeStart) or from any state with the invariant; `RunOK` and
  `Scheduled` are the two hypotheses on its timeouts, `offered` is what an input shows the vote sets.
-/
import AnnVerif.Model.Node
import AnnVerif.Lemmas.VoteSetInv

namespace AnnVerif.Node

/-- `BlockStore.SaveBlock` panics on an incomplete part set (reached from `finalizeCommit`). Named
    because the run invariant `Good` (C08 X10, C04 L7) is about this panic: a repaired node never emits it -/
def savePanic : Emit := .panic "SaveBlock:incomplete-part-set"

/-- what reaches the consensus state: a peer's message, the head of its own queue, a timeout -
    and a peer's +2/3 claim, which the reactor applies to the vote sets directly -/
inductive In where
  | msg (m : Msg) (peer : String)
  | own
  | timeout (h r : Int) (s : Step)
  | maj23 (height round : Int) (type : Nat) (peer : String) (bid : VoteSet.BlockID)

def stepIn (n : Node) : In → Node
  | .msg m peer => handleMsg n m peer
  | .own => match n.queue with
            | [] => n
            | m :: rest => handleMsg { n with queue := rest } m ""
  | .timeout h r s => handleTimeout n h r s
  | .maj23 h r t peer bid => setPeerMaj23 n h r t peer bid

/-- the votes an input offers to the vote sets, with their signature-oracle bit -/
def offeredMsg : Msg → VoteSet.Hist
  | .vote v ok => [(v, ok)]
  | _ => []

def offered (n : Node) : In → VoteSet.Hist
  | .msg m _ => offeredMsg m
  | .own => match n.queue with
            | m :: _ => offeredMsg m
            | [] => []
  | _ => []

theorem mem_offered {n : Node} {i : In} {v : VoteSet.Vote} {ok : Bool} (h : (v, ok) ∈ offered n i) :
    (∃ peer, i = .msg (.vote v ok) peer) ∨ (i = .own ∧ ∃ rest, n.queue = .vote v ok :: rest) := by
  have msg : ∀ m : Msg, (v, ok) ∈ offeredMsg m → m = .vote v ok := fun m hm => by
    cases m with
    | vote v' ok' => cases List.mem_singleton.mp hm; rfl
    | _ => cases hm
  cases i with
  | msg m peer => exact Or.inl ⟨peer, by rw [msg m h]⟩
  | own =>
    cases hq : n.queue with
    | nil => simp [offered, hq] at h
    | cons m rest =>
      have h : (v, ok) ∈ offeredMsg m := by simpa [offered, hq] using h
      exact Or.inr ⟨rfl, rest, by rw [msg m h]⟩
  | _ => cases h

/-- a timeout of the node's height is for a round the node has entered. `handleTimeout` drops earlier
    rounds, so it then enters Prevote or Precommit with `r = n.round` and the vote signed there is for
    the round it is signed in (`ht` of `Move.prevote`, `Move.precommit`) -/
def WellTimed (n : Node) : In → Prop
  | .timeout h r _ => h = n.height → r ≤ n.round
  | _ => True

/-- `WellTimed` at every state of the run: the hypothesis of the invariants that read the signing
    history (QJ, A3Inv, Full); `Scheduled` implies it (`runOK_of_scheduled`) -/
def RunOK : Node → List In → Prop
  | _, [] => True
  | n, i :: rest => WellTimed n i ∧ RunOK (stepIn n i) rest

/-- every timeout of the run is one the node has emitted before (ticker.go relays nothing else) -/
def Scheduled : Node → List In → Prop
  | _, [] => True
  | n, i :: rest =>
    (match i with | .timeout h r s => Emit.timeout h r s ∈ n.out | _ => True) ∧ Scheduled (stepIn n i) rest

end AnnVerif.Node
