/-
  What `recvPacket` does within capacity (beyond it: Props/C20.lean), the stream a receiver is
  reading (S2 of Props/C20.lean: intact frames in order, one read, any sequence of reads) and what
  the decisions of Model/Admission.lean amount to.
-/
import AnnVerif.Model.Transport
import AnnVerif.Model.Admission
import AnnVerif.Lemmas.Logic

namespace AnnVerif.Transport

theorem recvPacket_within (cap ch : Nat) (eof : Bool) (rc bs : Bytes) (h : rc.length + bs.length ≤ cap) :
    recvPacket cap rc ⟨ch, eof, bs⟩ = if eof then ([], .complete (rc ++ bs)) else (rc ++ bs, .more) :=
  if_neg (Nat.not_lt.mpr h)

end AnnVerif.Transport

namespace AnnVerif.C20
open AnnVerif AnnVerif.Transport

/-- the frames on the wire are intact and are the next ones the receiver expects, in order -/
def WireOK : Nat → List Sealed → Prop
  | _, [] => True
  | n, f :: rest => f.intact = true ∧ f.truncated = false ∧ f.nonce = n ∧ WireOK (n + 1) rest

def flat (wire : List Sealed) : Bytes := (wire.map (·.chunk)).flatten

/-- S2: one read, repaired: EOF when buffer and wire are empty, otherwise the next bytes -/
theorem read_conserves_stream (r : Receiver) (wire : List Sealed) (k : Nat) (hw : WireOK r.nonce wire) :
    (r.buf = [] ∧ wire = [] ∧ scRead {} r wire k = (r, [], .eof)) ∨
    ∃ r' wire' out, scRead {} r wire k = (r', wire', .data out.length out) ∧
      out ++ r'.buf ++ flat wire' = r.buf ++ flat wire ∧ WireOK r'.nonce wire' := by
  by_cases hb : r.buf = []
  · cases wire with
    | nil => exact .inl ⟨hb, rfl, by simp [scRead, hb]⟩
    | cons f rest =>
      obtain ⟨hi, htr, hnn, hrest⟩ := hw
      -- the first `k` bytes of the frame are delivered, the rest of its chunk is buffered
      refine .inr ⟨⟨r.nonce + 1, f.chunk.drop k⟩, rest, f.chunk.take k, ?_, ?_, hrest⟩
      · simp [scRead, hb, htr, hi, hnn]
      · simp [flat, hb]
  · -- served from the buffer, the wire is not touched
    refine .inr ⟨{ r with buf := r.buf.drop k }, wire, r.buf.take k, ?_, ?_, hw⟩
    · simp [scRead, hb]
    · simp

/-- a sequence of reads with the given buffer sizes; stops at the first failure -/
def readMany (cfg : Cfg) : Receiver → List Sealed → List Nat → Receiver × List Sealed × Bytes × Bool
  | r, w, [] => (r, w, [], true)
  | r, w, k :: ks =>
    match scRead cfg r w k with
    | (r', w', .data n out) =>
      let (r'', w'', more, ok) := readMany cfg r' w' ks
      (r'', w'', out.take n ++ more, ok)
    | (r', w', _) => (r', w', [], false)

/-- S2 over any sequence of reads of any sizes, also one that runs into the end of the stream:
    everything received so far, plus what is buffered and still on the wire, is the original stream -/
theorem stream_conserved : ∀ (ks : List Nat) (r : Receiver) (wire : List Sealed), WireOK r.nonce wire →
    (readMany {} r wire ks).2.2.1 ++ (readMany {} r wire ks).1.buf ++ flat (readMany {} r wire ks).2.1 =
      r.buf ++ flat wire := by
  intro ks
  induction ks with
  | nil => intro r wire _; rfl
  | cons k rest ih =>
    intro r wire hw
    simp only [readMany]
    rcases read_conserves_stream r wire k hw with ⟨-, rfl, he⟩ | ⟨r', w', out, he, hcons, hw'⟩
    · rw [he]
      rfl
    · rw [he]
      have h := ih r' w' hw'
      simp only [List.take_length, ← hcons, List.append_assoc] at h ⊢
      rw [h]

end AnnVerif.C20

namespace AnnVerif.Admission

theorem caAccepts_iff (cfg : Cfg) (n : Node) (p : Peer) :
    caAccepts cfg n p = true ↔
      ((∃ v ∈ (if cfg.currentValidators then n.validatorsNow else n.validatorsAtStart),
          v.key = p.announced) ∧ n.nonValidatorNodeAuth = false) ∨
      (∃ v ∈ (if cfg.currentValidators then n.validatorsNow else n.validatorsAtStart),
          v.isCA = true ∧ v.key ∈ p.signedBy) := by
  simp only [caAccepts, Bool.if_true_left, decide_eq_true_eq, Bool.or_eq_true, Bool.and_eq_true,
    List.any_eq_true, beq_iff_eq, Bool.not_eq_true', List.contains_iff_mem]

/-- the admission decision stated outright: every check of `AddPeerWithConnection` passes -/
theorem admitted_iff (cfg : Cfg) (n : Node) (p : Peer) :
    admission cfg n p = .admitted ↔
      p.connKey ∉ n.refuse ∧ (n.authByCA = true → caAccepts cfg n p = true) ∧
      p.announced = p.connKey ∧ p.announced ≠ n.self := by
  -- the guards by `guard_eq_iff`; the names after `and_true` turn `contains`, `!` and the negated guards into the
  -- right-hand side
  simp only [admission, guard_eq_iff, ne_eq, reduceCtorEq, not_false_eq_true, Classical.not_not, and_true,
    List.contains_iff_mem, Bool.not_eq_true', not_and, Bool.not_eq_false]

end AnnVerif.Admission
