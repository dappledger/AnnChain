/-
  C01 layer 2: AGREEMENT FOR A NETWORK OF NODE MODELS.

  A system is a list of honest nodes (each a `Node`, the model of one ConsensusState) run by an
  adversarial scheduler: every global step hands one node one input - any message from any peer
  (proposals, parts, votes with any content and any signature bit), an own queued message, a
  timeout, a peer's majority claim. Byzantine validators are not modelled as processes: whatever
  they sign simply appears as input. What is asked of inputs (`Valid`): a timeout of the node's
  height is for a round it has entered (`WellTimed`; weaker than "one it has scheduled"), BlockIDs
  are wire-sized, and UNFORGEABILITY: a vote that verifies under the key of an HONEST
  validator was signed by that validator's node earlier (`Auth`). Under it, and with less than a
  third of the power outside the honest nodes, no two nodes ever commit different blocks at one
  height (`agreement_net`).

  The proof discharges the hypotheses A1-A3 of the timed agreement theorem (AgreementT) from the run
  invariants of the node model (`Full`: L8, L10, L11 and their frozen forms for finished heights,
  plus C15's vote-set invariant for every vote set the node holds), with global step numbers as
  time: a polka in a node's vote set consists of votes delivered earlier, each signed earlier still.
-/
import AnnVerif.Lemmas.NodePast
import AnnVerif.Lemmas.AgreementT
import AnnVerif.Lemmas.VoteKey
namespace AnnVerif.Net
open AnnVerif.Node AnnVerif.Fairness AnnVerif.Agreement
open Classical

/-! ### the timed agreement theorem with integer rounds (the form the node model produces) -/

structure ZHistory (Block : Type) where
  prevote : Nat → Int → Option Block → Nat → Prop
  precommit : Nat → Int → Option Block → Nat → Prop

section
variable {Block : Type} (N : Nat) (w : Nat → Int) (F : Nat → Prop) (H : ZHistory Block)

def PolkaBefore (r : Int) (x : Option Block) (t : Nat) : Prop :=
  3 * pow N w (fun j => ∃ s, s < t ∧ H.prevote j r x s) > 2 * S N w

def CommitQuorum (r : Int) (b : Block) : Prop :=
  3 * pow N w (fun j => ∃ s, H.precommit j r (some b) s) > 2 * S N w

structure HonestRules : Prop where
  precommit_unique : ∀ j r x y s s', ¬ F j → H.precommit j r x s → H.precommit j r y s' → x = y
  precommit_polka : ∀ j r b t, ¬ F j → H.precommit j r (some b) t → ∃ t', PolkaBefore N w H r (some b) t'
  lock : ∀ j r b t r' x t', ¬ F j → H.precommit j r (some b) t → r < r' → H.prevote j r' x t' → x ≠ some b →
    ∃ r'' y, r < r'' ∧ r'' ≤ r' ∧ y ≠ some b ∧ PolkaBefore N w H r'' y t'

theorem agreementZ (hw : ∀ j, j < N → 0 ≤ w j) (hF : 3 * pow N w F < S N w)
    (rules : HonestRules N w F H) (r r' : Int) (b b' : Block)
    (hq : CommitQuorum N w H r b) (hq' : CommitQuorum N w H r' b') : b = b' :=
  AgreementT.agreement_timed N w H.prevote H.precommit Int.lt_trichotomy hw F hF rules.precommit_unique
    rules.precommit_polka
    (fun j r b t r' x t' hf hpc hlt hpv hx =>
      (rules.lock j r b t r' x t' hf hpc hlt hpv hx).imp fun _ => Exists.imp fun _ h => ⟨h.1, h.2.2⟩)
    r r' b b' hq hq'
end

def wOf (V : List VoteSet.Validator) (i : Nat) : Int := ((V[i]?).map (·.power)).getD 0

theorem wOf_cons (a : VoteSet.Validator) (V : List VoteSet.Validator) (j : Nat) : wOf (a :: V) (j + 1) = wOf V j := by
  simp [wOf]

theorem total_eq_S (V : List VoteSet.Validator) : VoteSet.total V = S V.length (wOf V) := by
  induction V with
  | nil => simp [VoteSet.total, S]
  | cons a V ih =>
    rw [List.length_cons, S_shift]
    have : (fun j => wOf (a :: V) (j + 1)) = wOf V := funext (wOf_cons a V)
    rw [this, ← ih]
    simp [VoteSet.total, wOf]

theorem wOf_nonneg (V : List VoteSet.Validator) (pos : ∀ val ∈ V, 0 ≤ val.power) (j : Nat) : 0 ≤ wOf V j := by
  unfold wOf
  cases h : V[j]? with
  | none => simp
  | some v => simp; exact pos v (List.mem_of_getElem? h)

theorem pow_wOf_cons (a : VoteSet.Validator) (V : List VoteSet.Validator) (P : Nat → Prop) :
    pow (a :: V).length (wOf (a :: V)) P = (if P 0 then a.power else 0) + pow V.length (wOf V) fun j => P (j + 1) := by
  unfold pow
  rw [List.length_cons, S_shift]
  simp only [wOf_cons]
  rfl

theorem tally_le_pow (V : List VoteSet.Validator) (pos : ∀ val ∈ V, 0 ≤ val.power) :
    ∀ (slots : List (Option VoteSet.Vote)) (P : Nat → Prop), (∀ i v, slots[i]? = some (some v) → P i) →
      VoteSet.tally (VoteSet.powers V) slots ≤ pow V.length (wOf V) P := by
  induction V with
  | nil => intro slots P _; simp [VoteSet.powers, VoteSet.tally, pow, S]
  | cons a V ih =>
    intro slots P hP
    have pos' : ∀ val ∈ V, 0 ≤ val.power := fun v hv => pos v (List.mem_cons_of_mem _ hv)
    have h0 : 0 ≤ (if P 0 then a.power else 0) := by
      split
      · exact pos a List.mem_cons_self
      · exact Int.le_refl 0
    rw [pow_wOf_cons]
    cases slots with
    | nil => exact Int.add_nonneg h0 (pow_nonneg V.length (wOf V) (fun j _ => wOf_nonneg V pos' j) _)
    | cons s ss =>
      have h1 := ih pos' ss (fun j => P (j + 1)) fun i v hv => hP (i + 1) v hv
      cases s with
      | none => exact Int.le_trans h1 (Int.le_add_of_nonneg_left h0)
      | some v =>
        rw [if_pos (hP 0 v rfl)]
        exact Int.add_le_add_left h1 _

def Offered (hist : VoteSet.Hist) (h r : Int) (t : Nat) (bid : VoteSet.BlockID) (i : Nat) : Prop :=
  ∃ v, (v, true) ∈ hist ∧ v.idx = (i : Int) ∧ v.height = h ∧ v.round = r ∧ v.type = t ∧ v.bid = bid

theorem maj_offered_power {V : List VoteSet.Validator} (pos : ∀ val ∈ V, 0 ≤ val.power) {hist : VoteSet.Hist}
    (hsmall : ∀ x ∈ hist, x.1.bid.Small) {vs : VoteSet.VoteSet} {h r : Int} {t : Nat} (ok : SetOK V hist h r t vs)
    {bid : VoteSet.BlockID} (hm : vs.maj23 = some bid) :
    3 * pow V.length (wOf V) (Offered hist h r t bid) > 2 * S V.length (wOf V) := by
  obtain ⟨inv, sp, offered⟩ := ok
  -- the majority names the block of an offered vote, so it is wire-sized
  obtain ⟨v0, hv0, e0⟩ := offered bid hm
  obtain ⟨bvv, _, hq, hall⟩ := inv.maj_entry hsmall (e0 ▸ hsmall _ hv0) hm
  rw [show vs.vals = V from sp.vals.symm] at hq
  have hle := tally_le_pow V pos bvv (Offered hist h r t bid) fun i v hiv => by
    obtain ⟨g, e, _⟩ := hall i v hiv
    exact ⟨v, g.offered, g.idx, g.h.trans sp.height.symm, g.r.trans sp.round.symm, g.t.trans sp.type.symm, e⟩
  have hg := VoteSet.quorum_gt (VoteSet.total V)
  rw [← total_eq_S]
  omega

/-- one step of the scheduler: node `k` is handed input `i` -/
structure Act where
  k : Nat
  i : In

/-- the nodes, and for each the (ghost) history of votes offered to it so far -/
structure G where
  node : Nat → Node
  hist : Nat → VoteSet.Hist

def step (g : G) (a : Act) : G :=
  { node := fun k => if k = a.k then stepIn (g.node k) a.i else g.node k,
    hist := fun k => if k = a.k then g.hist k ++ offered (g.node k) a.i else g.hist k }

/-- the system after the first `s` actions; `s` is the time of the timed agreement theorem -/
def stateAt (g0 : G) (as : List Act) (s : Nat) : G := (as.take s).foldl step g0

theorem stateAt_cons (g : G) (a : Act) (rest : List Act) (s : Nat) :
    stateAt g (a :: rest) (s + 1) = stateAt (step g a) rest s := rfl

theorem stateAt_succ (g0 : G) (as : List Act) (s k : Nat) :
    ((stateAt g0 as (s + 1)).node k = (stateAt g0 as s).node k ∧ (stateAt g0 as (s + 1)).hist k = (stateAt g0 as s).hist k) ∨
    ∃ hs : s < as.length, as[s].k = k ∧
      (stateAt g0 as (s + 1)).node k = stepIn ((stateAt g0 as s).node k) as[s].i ∧
      (stateAt g0 as (s + 1)).hist k = (stateAt g0 as s).hist k ++ offered ((stateAt g0 as s).node k) as[s].i := by
  unfold stateAt
  by_cases hs : s < as.length
  · rw [List.take_add_one, List.foldl_append, List.getElem?_eq_getElem hs]
    by_cases hka : k = as[s].k
    · exact Or.inr ⟨hs, hka.symm, if_pos hka, if_pos hka⟩
    · exact Or.inl ⟨if_neg hka, if_neg hka⟩
  · rw [List.take_of_length_le (by omega), List.take_of_length_le (by omega)]
    exact Or.inl ⟨rfl, rfl⟩

def SameContent (w v : VoteSet.Vote) : Prop :=
  w.height = v.height ∧ w.round = v.round ∧ w.type = v.type ∧ w.bid = v.bid

/-- UNFORGEABILITY: a vote that verifies under the key of the honest validator run by node `k'` has
    been signed by that node -/
def Auth (K : Nat) (g : G) (i : In) : Prop :=
  ∀ v peer, i = .msg (.vote v true) peer → ∀ k' (j : Nat), k' < K → (g.node k').me = some j → v.idx = (j : Int) →
    ∃ w ∈ (g.node k').signed, SameContent w v

/-- what a valid run asks of an action, in the state it is taken in. `wt` follows from the ticker
    relaying only scheduled timeouts (`runOK_of_scheduled`); `small` is what makes `BlockID.Key()`
    injective on the offered votes (`key_injective`), which the vote-set invariant tallies by -/
structure Valid (K : Nat) (g : G) (a : Act) : Prop where
  k : a.k < K
  wt : WellTimed (g.node a.k) a.i
  auth : Auth K g a.i
  small : ∀ x ∈ offered (g.node a.k) a.i, x.1.bid.Small

def ValidRun (K : Nat) (g0 : G) (as : List Act) : Prop :=
  ∀ s (hs : s < as.length), Valid K (stateAt g0 as s) as[s]

theorem signed_prefix_stepIn (n : Node) (i : In) (hw : WellTimed n i) : n.signed <+: (stepIn n i).signed :=
  stepIn_keeps_timed (P := fun m => n.signed <+: m.signed) (fun m p => p.trans (m.signs.imp fun _ h => h.1.symm))
    n i (List.prefix_refl _) hw

section
variable (K : Nat) (V : List VoteSet.Validator) (me0 : Nat → Option Nat) (g0 : G) (as : List Act)

/-- what is assumed of the system: every node satisfies the run invariants at the start (a freshly
    started node does: `Node.start_full`), no two nodes run the same validator, inputs are authentic -/
structure Setting : Prop where
  init : ∀ k, k < K → Full V (me0 k) (g0.node k) (g0.hist k) ∧ g0.hist k = []
  dist : ∀ k k' (j : Nat), k < K → k' < K → me0 k = some j → me0 k' = some j → k = k'
  run : ValidRun K g0 as

variable {K V me0 g0 as}

theorem hist_zero (S : Setting K V me0 g0 as) {k : Nat} (hk : k < K) : (stateAt g0 as 0).hist k = [] := (S.init k hk).2

/-- every node at every time of a valid run satisfies `Full`, relative to the votes offered to it so
    far, all of them wire-sized. Everything below reads the system through this -/
theorem full_at (S : Setting K V me0 g0 as) : ∀ s k, k < K →
    Full V (me0 k) ((stateAt g0 as s).node k) ((stateAt g0 as s).hist k) ∧
    ∀ x ∈ (stateAt g0 as s).hist k, x.1.bid.Small := by
  intro s
  induction s with
  | zero =>
    intro k hk
    refine ⟨(S.init k hk).1, ?_⟩
    rw [hist_zero S hk]
    exact fun _ h => absurd h List.not_mem_nil
  | succ s ih =>
    intro k hk
    obtain ⟨f, sm⟩ := ih k hk
    rcases stateAt_succ g0 as s k with ⟨en, eh⟩ | ⟨hs, rfl, en, eh⟩
    · rw [en, eh]; exact ⟨f, sm⟩
    · rw [en, eh]
      have v := S.run s hs
      exact ⟨full_stepIn _ _ f v.wt, fun x hx => (List.mem_append.mp hx).elim (sm x) (v.small x)⟩

theorem signed_prefix (S : Setting K V me0 g0 as) (k : Nat) {s s' : Nat} (h : s ≤ s') :
    ((stateAt g0 as s).node k).signed <+: ((stateAt g0 as s').node k).signed := by
  induction h with
  | refl => exact List.prefix_refl _
  | @step s' _ ih =>
    refine ih.trans ?_
    rcases stateAt_succ g0 as s' k with ⟨en, _⟩ | ⟨hs, rfl, en, _⟩
    · rw [en]; exact List.prefix_refl _
    · rw [en]; exact signed_prefix_stepIn _ _ (S.run s' hs).wt

/-- TIMED AUTHENTICITY: a validly signed vote of an honest validator in any node's history of
    offered votes at time `s` was signed by that validator's node strictly before `s` -/
theorem offered_was_signed (S : Setting K V me0 g0 as) : ∀ s k, k < K → ∀ v, (v, true) ∈ (stateAt g0 as s).hist k →
    ∀ k' (j : Nat), k' < K → me0 k' = some j → v.idx = (j : Int) →
      ∃ s', s' < s ∧ ∃ w ∈ ((stateAt g0 as s').node k').signed, SameContent w v := by
  intro s
  induction s with
  | zero =>
    intro k hk v hv
    rw [hist_zero S hk] at hv
    cases hv
  | succ s ih =>
    intro k hk v hv k' j hk' hme hidx
    have old := fun hv => (ih k hk v hv k' j hk' hme hidx).imp fun _ h => And.imp_left Nat.lt_succ_of_lt h
    rcases stateAt_succ g0 as s k with ⟨_, eh⟩ | ⟨hs, rfl, _, eh⟩
    · exact old (eh ▸ hv)
    · rcases List.mem_append.mp (eh ▸ hv) with hv | hv
      · exact old hv
      · refine ⟨s, Nat.lt_succ_self s, ?_⟩
        rcases mem_offered hv with ⟨peer, hi⟩ | ⟨_, rest, hq⟩
        · exact (S.run s hs).auth v peer hi k' j hk' (by rw [(full_at S s k' hk').1.hme]; exact hme) hidx
        · -- its own vote: signed by this node, which is the one that runs validator `j`
          have fk := (full_at S s _ hk).1
          have hsig := (fk.qs v true (hq ▸ List.mem_cons_self ..)).1
          obtain ⟨i, hi1, hi2⟩ := fk.sm v hsig
          rw [fk.hme] at hi1
          obtain rfl : i = j := by omega
          obtain rfl := S.dist _ k' i hk hk' hi1 hme
          exact ⟨v, hsig, rfl, rfl, rfl, rfl⟩

end

section
variable (K : Nat) (V : List VoteSet.Validator) (me0 : Nat → Option Nat) (g0 : G) (as : List Act) (h : Int)

/-- validator `j` is run by one of the `K` nodes -/
def Honest (j : Nat) : Prop := ∃ k, k < K ∧ me0 k = some j

/-- the block of the abstract history. Nil is ANY BlockID with an empty hash, whatever its other
    fields: `hash.isEmpty` is all that `enterPrecommit`, `addVote` and `IsPC` test -/
def optOf (bid : VoteSet.BlockID) : Option Bytes := if bid.hash.isEmpty then none else some bid.hash

/-- by time `s` validator `j` has signed a vote of type `t` for `x` in round `r` of height `h`
    (for a validator outside the honest nodes: anything, at any time) -/
def voteAt (t : Nat) (j : Nat) (r : Int) (x : Option Bytes) (s : Nat) : Prop :=
  ¬ Honest K me0 j ∨ ∃ k, k < K ∧ me0 k = some j ∧ ∃ w ∈ ((stateAt g0 as s).node k).signed,
    w.height = h ∧ w.round = r ∧ w.type = t ∧ optOf w.bid = x

/-- the history of height `h` the agreement theorem is applied to. By `voteAt` a validator outside the
    honest nodes has cast every vote at every time: nothing is assumed of it -/
def Hs : ZHistory Bytes := ⟨voteAt K me0 g0 as h 1, voteAt K me0 g0 as h 2⟩

variable {K V me0 g0 as h}

theorem optOf_some {bid : VoteSet.BlockID} {b : Bytes} (e : optOf bid = some b) : bid.hash = b ∧ bid.hash.isEmpty = false := by
  unfold optOf at e
  split at e
  · cases e
  · rename_i hne
    exact ⟨by injection e, by simpa using hne⟩

theorem optOf_eq_of_hash {a b : VoteSet.BlockID} (e : a.hash = b.hash) : optOf a = optOf b := by
  unfold optOf; rw [e]

/-- the core: a majority reported by a vote set of node `k` at time `s` consists, to more than two
    thirds of the power, of validators that had signed exactly that vote strictly before `s` -/
theorem maj_lift (st : Setting K V me0 g0 as) (s k : Nat) (hk : k < K) {t : Nat} {r : Int} {vs : VoteSet.VoteSet}
    (ok : SetOK V ((stateAt g0 as s).hist k) h r t vs) (bid : VoteSet.BlockID) (hm : vs.maj23 = some bid) :
    3 * pow V.length (wOf V) (fun j => ∃ s', s' < s ∧ voteAt K me0 g0 as h t j r (optOf bid) s') > 2 * Fairness.S V.length (wOf V) := by
  obtain ⟨f, small⟩ := full_at st s k hk
  have pos := f.vsi.pos
  have big := maj_offered_power pos small ok hm
  have mono := pow_mono V.length (wOf V) (fun j _ => wOf_nonneg V pos j)
    (Offered ((stateAt g0 as s).hist k) h r t bid)
    (fun j => ∃ s', s' < s ∧ voteAt K me0 g0 as h t j r (optOf bid) s') (by
      intro j ⟨v, hv, hidx, hh, hr, ht, hbb⟩
      by_cases hon : Honest K me0 j
      · obtain ⟨k', hk', hme⟩ := hon
        obtain ⟨s', hlt, w, hw, sc⟩ := offered_was_signed st s k hk v hv k' j hk' hme hidx
        exact ⟨s', hlt, Or.inr ⟨k', hk', hme, w, hw, sc.1.trans hh, sc.2.1.trans hr, sc.2.2.1.trans ht,
          by rw [sc.2.2.2, hbb]⟩⟩
      · -- something was offered, so it is not time 0
        have hs0 : s ≠ 0 := fun e => by
          subst e
          rw [hist_zero st hk] at hv
          cases hv
        exact ⟨0, by omega, Or.inl hon⟩)
  omega

theorem polka_lift (st : Setting K V me0 g0 as) (s k : Nat) (hk : k < K) (rs : List RoundVotes)
    (ok : SetsOK V ((stateAt g0 as s).hist k) h rs) (r : Int) (bid : VoteSet.BlockID)
    (hm : maj23 (prevotesOf rs r) = some bid) :
    PolkaBefore V.length (wOf V) (Hs K me0 g0 as h) r (optOf bid) s := by
  obtain ⟨rv, hmem, hr, hmaj⟩ := find_votes (f := (·.prevotes)) hm
  exact maj_lift st s k hk (hr ▸ (setsOK_iff.mp ok rv hmem).1) bid hmaj

/-- A1 for both vote types (the agreement proof needs it for precommits only): an honest validator
    signs at most one vote of a type per round of a height, over the whole run -/
theorem one_vote_per_round (st : Setting K V me0 g0 as) (t : Nat) (j : Nat) (r : Int) (x y : Option Bytes) (s s' : Nat)
    (hf : Honest K me0 j) (h1 : voteAt K me0 g0 as h t j r x s) (h2 : voteAt K me0 g0 as h t j r y s') : x = y := by
  obtain ⟨k1, hk1, hm1, w1, hw1, a1, b1, c1, d1⟩ := h1.resolve_left fun h => h hf
  obtain ⟨k2, hk2, hm2, w2, hw2, a2, b2, c2, d2⟩ := h2.resolve_left fun h => h hf
  obtain rfl := st.dist k1 k2 j hk1 hk2 hm1 hm2
  -- both votes are in the signing history at the later of the two times
  have m1 := (signed_prefix st k1 (Nat.le_max_left s s')).subset hw1
  have m2 := (signed_prefix st k1 (Nat.le_max_right s s')).subset hw2
  rw [← d1, ← d2, (full_at st (max s s') k1 hk1).1.a3.one_per_slot m1 m2 ⟨a1.trans a2.symm, b1.trans b2.symm, c1.trans c2.symm⟩]

/-- A1-A3 for the history of height `h` of ANY valid run of the system -/
theorem honest_rules (st : Setting K V me0 g0 as) :
    HonestRules V.length (wOf V) (fun j => ¬ Honest K me0 j) (Hs K me0 g0 as h) := by
  refine ⟨?_, ?_, ?_⟩
  · exact fun j r x y s s' hf => one_vote_per_round st 2 j r x y s s' (Classical.not_not.mp hf)
  · -- A2: a precommit for a block comes with a polka
    intro j r b t hf hp
    obtain ⟨k, hk, hm, w, hw, a, b1, c, d⟩ := hp.resolve_left hf
    obtain ⟨_, hne⟩ := optOf_some d
    obtain ⟨rs, ok, po⟩ := (full_at st t k hk).1.at_height hw
    rw [a] at ok
    rw [← d, ← b1]
    exact ⟨t, polka_lift st t k hk rs ok w.round w.bid (po.just w hw rfl c hne)⟩
  · -- A3: the lock rule
    intro j r b t r' x t' hf hpc hlt hpv hx
    obtain ⟨k1, hk1, hm1, w1, hw1, a1, b1, c1, d1⟩ := hpc.resolve_left hf
    obtain ⟨k2, hk2, hm2, w2, hw2, a2, b2, c2, d2⟩ := hpv.resolve_left hf
    obtain rfl := st.dist k1 k2 j hk1 hk2 hm1 hm2
    obtain ⟨hhash, hne⟩ := optOf_some d1
    -- the history at the later of the two times is in the order of the rounds: the precommit, of the
    -- earlier round, is not in the part of it signed after time t'
    obtain ⟨late, eT⟩ := signed_prefix st k1 (Nat.le_max_right t t')
    have m1 := (signed_prefix st k1 (Nat.le_max_left t t')).subset hw1
    have srt := (full_at st (max t t') k1 hk1).1.a3.sorted
    rw [← eT] at m1 srt
    have hw1' : w1 ∈ ((stateAt g0 as t').node k1).signed := (List.mem_append.mp m1).resolve_right fun hl => by
      have := ((List.pairwise_append.mp srt).2.2 w2 hw2 w1 hl).2 (a2.trans a1.symm)
      omega
    -- so at time t' both are signed, the precommit first: the lock rule as it stands then
    obtain ⟨rs, ok, po⟩ := (full_at st t' k1 hk1).1.at_height hw2
    rw [a2] at ok
    have rule : LockRule (w2.height, rs) w1 w2 := by
      rcases pairwise_mem (po.lockRule.and (List.pairwise_append.mp srt).1) hw1' hw2 with e | ⟨l, _⟩ | ⟨_, o⟩
      · rw [e, c2] at c1; cases c1
      · exact l
      · have := o.2 (a2.trans a1.symm); omega
    obtain ⟨r'', bid'', h1, h2, h3, h4⟩ := rule c1 hne (a1.trans a2.symm) c2 rfl (by omega)
      fun e => hx (by rw [← d2, ← d1]; exact optOf_eq_of_hash e)
    refine ⟨r'', optOf bid'', by omega, by omega, fun e => h4 ?_, polka_lift st t' k1 hk1 rs ok r'' bid'' h3⟩
    rw [(optOf_some e).1, hhash]

/-- C01, LAYER 2: in every valid run of the system - any schedule, any messages, unforgeable
    signatures, less than one third of the power outside the honest nodes - two nodes never commit
    different blocks at one height -/
theorem agreement_net (st : Setting K V me0 g0 as)
    (hF : 3 * pow V.length (wOf V) (fun j => ¬ Honest K me0 j) < Fairness.S V.length (wOf V))
    (s s' k k' : Nat) (hk : k < K) (hk' : k' < K) (b b' : Bytes) (hb : b ≠ []) (hb' : b' ≠ [])
    (hc : Emit.commit h b ∈ ((stateAt g0 as s).node k).out)
    (hc' : Emit.commit h b' ∈ ((stateAt g0 as s').node k').out) : b = b' := by
  have quorum : ∀ (s k : Nat) (hk : k < K) (b : Bytes), b ≠ [] → Emit.commit h b ∈ ((stateAt g0 as s).node k).out →
      ∃ cr, CommitQuorum V.length (wOf V) (Hs K me0 g0 as h) cr b := by
    intro s k hk b hb hc
    obtain ⟨f, _⟩ := full_at st s k hk
    obtain ⟨e, he, h1, cr, bid, hmaj, hbid⟩ := f.cm h b hc
    obtain ⟨rv, hmem, hr, hm⟩ := find_votes (f := (·.precommits)) hmaj
    have big := maj_lift st s k hk (h1 ▸ hr ▸ (setsOK_iff.mp (f.vsi.old e he) rv hmem).2) bid hm
    have eo : optOf bid = some b := by
      unfold optOf
      rw [hbid, List.isEmpty_eq_false_iff.mpr hb]
      rfl
    rw [eo] at big
    refine ⟨cr, ?_⟩
    have mono := pow_mono V.length (wOf V) (fun j _ => wOf_nonneg V f.vsi.pos j)
      (fun j => ∃ s', s' < s ∧ voteAt K me0 g0 as h 2 j cr (some b) s')
      (fun j => ∃ s', (Hs K me0 g0 as h).precommit j cr (some b) s') (fun j ⟨s', _, hv⟩ => ⟨s', hv⟩)
    unfold CommitQuorum
    omega
  obtain ⟨cr, q⟩ := quorum s k hk b hb hc
  obtain ⟨cr', q'⟩ := quorum s' k' hk' b' hb' hc'
  have pos := (full_at st 0 k hk).1.vsi.pos
  exact agreementZ V.length (wOf V) _ (Hs K me0 g0 as h) (fun j _ => wOf_nonneg V pos j) hF
    (honest_rules st) cr cr' b b' q q'

end
end AnnVerif.Net
