/-
  What `finalizeCommit`, `tryFinalizeCommit` and `enterCommit` do once +2/3 precommits for a block
  exist, as equations under their guards. The local progress theorems of C12 (P1-P5: a node that has
  what a commit needs does commit, in the step that gives it the last piece) are read off them.
-/
import AnnVerif.Lemmas.Assembled
namespace AnnVerif.Node

theorem finalizeCommit_commits (n : Node) (bid : VoteSet.BlockID)
    (hs : n.step = .commit) (hm : maj23 (precommits n n.commitRound) = some bid)
    (hb : n.proposalBlock = some bid.hash) (hp : n.proposalParts = some bid.hash) (hc : n.partsComplete = true)
    (hv : isValid n bid.hash = true) :
    Emit.commit n.height bid.hash ∈ (finalizeCommit n n.height).out ∧ (finalizeCommit n n.height).height = n.height + 1 ∧
    (finalizeCommit n n.height).step = .newHeight := by
  unfold finalizeCommit
  -- the entry test passes by `hs`, the `match` is decided by `hm` and `hb` …
  simp only [hs, ne_eq, not_true_eq_false, or_self, if_false, hm, hb]
  -- … and the four tests before the commit by `hp`, `rfl`, `hv`, `hc`
  simp [nameOf, hp, hv, hc, emit]

theorem tryFinalizeCommit_eq (n : Node) (bid : VoteSet.BlockID) (hm : maj23 (precommits n n.commitRound) = some bid)
    (hne : bid.hash.isEmpty = false) :
    tryFinalizeCommit n n.height = if n.proposalBlock = some bid.hash then finalizeCommit n n.height else n := by
  unfold tryFinalizeCommit
  simp only [ne_eq, not_true_eq_false, if_false, hm, hne, Bool.false_eq_true, Bool.not_eq_true', ← Bool.not_eq_true,
    hashesTo_iff hne]
  by_cases hb : n.proposalBlock = some bid.hash
  · rw [if_pos hb, if_neg (Classical.not_not.mpr hb)]
  · rw [if_neg hb, if_pos hb]

theorem tryFinalizeCommit_commits (n : Node) (bid : VoteSet.BlockID) (hs : n.step = .commit)
    (hm : maj23 (precommits n n.commitRound) = some bid) (hne : bid.hash.isEmpty = false)
    (hb : n.proposalBlock = some bid.hash) (hp : n.proposalParts = some bid.hash) (hc : n.partsComplete = true)
    (hv : isValid n bid.hash = true) :
    Emit.commit n.height bid.hash ∈ (tryFinalizeCommit n n.height).out ∧ (tryFinalizeCommit n n.height).height = n.height + 1 := by
  rw [tryFinalizeCommit_eq n bid hm hne, if_pos hb]
  exact (finalizeCommit_commits n bid hs hm hb hp hc hv).imp_right And.left

theorem enterCommit_eq (n : Node) (cr : Int) (bid : VoteSet.BlockID) (hs : ¬ Step.commit ≤ n.step)
    (hm : maj23 (precommits n cr) = some bid) (hne : bid.hash.isEmpty = false) :
    enterCommit n n.height cr = tryFinalizeCommit
      (if n.lockedBlock = some bid.hash then
        { n with proposalBlock := some bid.hash, proposalParts := some bid.hash, partsComplete := true,
                 step := .commit, commitRound := cr }
      else if n.proposalBlock = some bid.hash ∨ n.proposalParts = some bid.hash then
        { n with step := .commit, commitRound := cr }
      else { n with proposalBlock := none, proposalParts := some bid.hash, partsComplete := false,
                    step := .commit, commitRound := cr }) n.height := by
  unfold enterCommit
  rw [if_neg (not_or.mpr ⟨Classical.not_not.mpr rfl, hs⟩)]
  simp only [hm, hashesTo_iff hne, nameOf, Bool.not_eq_true', ← Bool.not_eq_true]
  -- what is left are the two `if`s of the code (adopt the locked block; else ask for the parts unless
  -- the block or its part set is there), decided by the three tests of the right-hand side
  by_cases hl : n.lockedBlock = some bid.hash
  · simp [hl]
  · by_cases hb : n.proposalBlock = some bid.hash
    · simp [hl, hb]
    · by_cases hp : n.proposalParts = some bid.hash
      · simp [hl, hb, hp]
      · simp [hl, hb, hp]

end AnnVerif.Node
