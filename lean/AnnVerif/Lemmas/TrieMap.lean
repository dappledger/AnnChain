/-
  The Merkle Patricia trie model behaves like a finite map: for every trie that satisfies the
  invariant and every terminated key, an update leaves a trie that satisfies the invariant, reads the
  new content for that key and what it read before for every other terminated key (`Upd`; the theorem is
  `update_ok`, at the end of TrieDelete.lean).
  This file has the two ways a node is rebuilt (`mkShort`, `Children.set`) with what they read, and
  `insert` (`insert_ok`); `delete` is in TrieDelete.lean.
-/
import AnnVerif.Lemmas.TrieWF
namespace AnnVerif.Trie

/-- the node that reads `c` behind the nibbles `key`: `c` itself if there are none, else a short node,
    merged with `c` if that is a short node too. Every short node `insert` and `delete` build has this form. -/
def mkShort (key : Key) (c : Node) : Node :=
  if key = [] then c
  else match c with
    | .short ck cv => .short (key ++ ck) cv
    | c => .short key c

theorem mkShort_nil (c : Node) : mkShort [] c = c := rfl

theorem mkShort_short (key ck : Key) (cv : Node) : mkShort key (.short ck cv) = .short (key ++ ck) cv := by
  cases key <;> rfl

theorem mkShort_ne {key : Key} (h : key ≠ []) (c : Node) :
    mkShort key c = match c with
      | .short ck cv => .short (key ++ ck) cv
      | c => .short key c :=
  if_neg h

theorem mkShort_value {key : Key} (h : key ≠ []) (w : Bytes) : mkShort key (.value w) = .short key (.value w) :=
  mkShort_ne h _

theorem mkShort_full {key : Key} (h : key ≠ []) (cs : Children) : mkShort key (.full cs) = .short key (.full cs) :=
  mkShort_ne h _

theorem mkShort_isEmpty {key : Key} {c : Node} (h : c.isEmpty = false) : (mkShort key c).isEmpty = false := by
  unfold mkShort
  split
  · exact h
  · split <;> rfl

theorem br_mkShort {key : Key} {c : Node} : Br (mkShort key c) ↔ Br c := by
  unfold mkShort
  split
  · rfl
  · split <;> rfl

theorem wf_mkShort {key : Key} {c : Node} (hk : NK key) (hw : WF c) (hne : c.isEmpty = false) :
    WF (mkShort key c) := by
  by_cases hn : key = []
  · subst hn; exact hw
  · cases c with
    | empty => cases hne
    | value _ => exact hw.elim
    | full cs => rw [mkShort_full hn]; exact ⟨⟨hn, hk⟩, hw⟩
    | short ck cv =>
      rw [mkShort_short]
      rcases wf_short hw with ⟨hck, w, rfl⟩ | ⟨hck, cs, rfl, hcs⟩
      · exact tk_under hk hck
      · exact ⟨⟨by simp [hn], nk_append.mpr ⟨hk, hck.2⟩⟩, hcs⟩

/-- the hypotheses are there for the fuel alone: `getN` hands `c` less of it behind `key` than on its own,
    and only in a well-formed trie does that make no difference -/
theorem getN_mkShort {key : Key} {c : Node} (hc : WFv c) (hw : WF (mkShort key c)) (k : Key) :
    getN (mkShort key c) k = if key <+: k then getN c (k.drop key.length) else none := by
  by_cases hn : key = []
  · subst hn; rw [mkShort_nil, if_pos List.nil_prefix]; rfl
  · cases c with
    | empty => rw [mkShort_ne hn] at hw; exact hw.elim
    | value w => rw [mkShort_value hn] at hw ⊢; exact getN_short hw k
    | full cs => rw [mkShort_full hn] at hw ⊢; exact getN_short hw k
    | short ck cv =>
      have hc : WF (.short ck cv) := hc.resolve_right fun ⟨_, e⟩ => by cases e
      rw [mkShort_short] at hw ⊢
      rw [getN_short hw]
      by_cases hp : key <+: k
      · obtain ⟨s, rfl⟩ := hp
        rw [if_pos (List.prefix_append _ _), List.drop_left, getN_short hc, List.length_append, ← List.drop_drop,
          List.drop_left]
        simp only [List.prefix_append_right_inj]
      · rw [if_neg hp, if_neg (fun h => hp ((List.prefix_append key ck).trans h))]

theorem mkShort_cons {b : Nat} {key1 : Key} {c : Node} (h : WF (.short (b :: key1) c)) :
    mkShort [b] (mkShort key1 c) = .short (b :: key1) c := by
  rcases wf_short h with ⟨_, w, rfl⟩ | ⟨_, cs, rfl, _⟩ <;> cases key1 <;> rfl

theorem wf_mkShort_slot {pos : Nat} {c : Node} (hp : pos < 17) (h : slotOK pos c) (hne : c.isEmpty = false) :
    WF (mkShort [pos] c) := by
  by_cases h16 : pos = 16
  · subst h16
    rcases slotVal_cases (slotOK_val.mp h) with rfl | ⟨w, rfl⟩
    · cases hne
    · exact tk_term
  · exact wf_mkShort (nk_cons.mpr ⟨by omega, nk_nil⟩) ((slotOK_wf h16).mp h) hne

/-- a short node that is split starts as a branch node with a single child, a branch node that delete
    leaves with one child ends as one: both read like that child behind its nibble -/
theorem getN_single {cs : Children} {pos : Nat} (hc : WFv (cs.get pos)) (hw : WF (mkShort [pos] (cs.get pos)))
    (hoth : ∀ i, i ≠ pos → cs.get i = .empty) {k : Key} (hk : TermKey k) :
    getN (.full cs) k = getN (mkShort [pos] (cs.get pos)) k := by
  rw [getN_mkShort hc hw]
  obtain ⟨j, s, rfl⟩ := tk_exists_cons hk
  rw [getN_full_cons]
  by_cases hj : j = pos
  · subst hj; simp
  · rw [hoth j hj, getN_empty, if_neg (fun h => hj (List.cons_prefix_cons.mp h).1.symm)]

/-- `t'` is `t` with the terminated key `k` set to `x` (removed, if `x` is `none`) -/
structure Upd (t : Node) (k : Key) (x : Option Bytes) (t' : Node) : Prop where
  wf : WF t'
  br : Br t'
  get : ∀ k', TermKey k' → getN t' k' = if k' = k then x else getN t k'

theorem Upd.of_absent {t : Node} {k : Key} (hw : WF t) (hb : Br t) (h : getN t k = none) : Upd t k none t := by
  refine ⟨hw, hb, fun k' _ => ?_⟩
  by_cases e : k' = k
  · rw [if_pos e, e, h]
  · rw [if_neg e]

theorem Upd.leaf {key : Key} (hk : TermKey key) (w : Bytes) {x : Option Bytes} {t' : Node} (hw : WF t')
    (hb : Br t') (h : ∀ k', TermKey k' → getN t' k' = if k' = key then x else none) :
    Upd (.short key (.value w)) key x t' := by
  refine ⟨hw, hb, fun k' hk' => ?_⟩
  rw [h k' hk', getN_leaf hk hk']
  by_cases e : k' = key
  · rw [if_pos e, if_pos e]
  · rw [if_neg e, if_neg e, if_neg e]

theorem Upd.under {p : Key} (hp : NK p) {n n' : Node} {s : Key} {x : Option Bytes} (h : Upd n s x n')
    (hn : WF n) (hne : n.isEmpty = false) (hne' : n'.isEmpty = false) : Upd (mkShort p n) (p ++ s) x (mkShort p n') := by
  have w := wf_mkShort hp hn hne
  have w' := wf_mkShort hp h.wf hne'
  refine ⟨w', br_mkShort.mpr h.br, fun k' hk' => ?_⟩
  rw [getN_mkShort (Or.inl h.wf) w', getN_mkShort (Or.inl hn) w]
  by_cases hpre : p <+: k'
  · obtain ⟨s', rfl⟩ := hpre
    rw [if_pos (List.prefix_append _ _), if_pos (List.prefix_append _ _), List.drop_left, h.get s' (tk_rest hk' hp)]
    simp only [List.append_cancel_left_eq]
  · rw [if_neg hpre, if_neg hpre, if_neg (by rintro rfl; exact hpre (List.prefix_append _ _))]

/-- Child `i` of a branch node replaced by `c'`. By `wfc_child` one of two cases applies: the key ends
    here, `i = 16`, and slot 16 holds a value or nothing (`hv`); or it goes on into child `i < 16`, of which
    `c'` is an update (`hu`: the induction hypothesis in `insert_ok` and `delete_ok`). -/
theorem full_set {cs : Children} (hw : WFC cs 0) (hb : BrC cs) {i : Nat} {r : Key} (hk : TermKey (i :: r))
    {x : Option Bytes} {c' : Node} (hv : r = [] → SlotVal (cs.get i) → SlotVal c' ∧ getN c' [] = x)
    (hu : TermKey r → WF (cs.get i) → Upd (cs.get i) r x c') :
    WFC (cs.set i c') 0 ∧ BrC (cs.set i c') ∧
    ∀ k', TermKey k' → getN (.full (cs.set i c')) k' = if k' = i :: r then x else getN (.full cs) k' := by
  obtain ⟨hi, hcase⟩ := wfc_child hw hk
  have hc : slotOK i c' ∧ Br c' ∧
      ∀ r', TermKey (i :: r') → getN c' r' = if r' = r then x else getN (cs.get i) r' := by
    rcases hcase with ⟨rfl, rfl, hs⟩ | ⟨hlt, hr, hwc⟩
    · obtain ⟨sv, g⟩ := hv rfl hs
      refine ⟨slotOK_val.mpr sv, br_of_slotVal sv, fun r' hr' => ?_⟩
      rcases tk_cons.mp hr' with ⟨_, rfl⟩ | ⟨h, _⟩
      · rw [if_pos rfl]; exact g
      · omega
    · have u := hu hr hwc
      refine ⟨(slotOK_wf (by omega)).mpr u.wf, u.br, fun r' hr' => ?_⟩
      rcases tk_cons.mp hr' with ⟨h, _⟩ | ⟨_, hr''⟩
      · omega
      · exact u.get r' hr''
  refine ⟨wfc_slot_set hw hc.1, brc_set cs i c' hb hc.2.1, fun k' hk' => ?_⟩
  obtain ⟨j, s, rfl⟩ := tk_exists_cons hk'
  rw [getN_full_cons, getN_full_cons]
  by_cases hj : i = j
  · subst hj
    rw [Children.get_set_same hi, hc.2.2 s hk']
    simp only [List.cons.injEq, true_and]
  · rw [Children.get_set_other hj, if_neg (fun e => hj (List.cons.inj e).1.symm)]

theorem insert_nil_key (t : Node) (v : Bytes) (f : Nat) : insert t [] v (f + 1) = .value v := by
  cases t <;> rfl

theorem insert_empty (a : Nat) (k : Key) (v : Bytes) (f : Nat) :
    insert .empty (a :: k) v (f + 1) = .short (a :: k) (.value v) := rfl

theorem insert_full (cs : Children) (i : Nat) (r : Key) (v : Bytes) (f : Nat) :
    insert (.full cs) (i :: r) v (f + 1) = .full (cs.set i (insert (cs.get i) r v f)) := rfl

theorem insert_short (key : Key) (c : Node) {k : Key} (hk : k ≠ []) (v : Bytes) (f : Nat) :
    insert (.short key c) k v (f + 1) =
      (let m := prefixLen k key
       if m = key.length then Node.short key (insert c (k.drop m) v f)
       else
        let branch := (Children.replicate 17).set (key.getD m 0)
          (if (key.drop (m + 1)).isEmpty then c else .short (key.drop (m + 1)) c)
        let branch := branch.set (k.getD m 0) (insert .empty (k.drop (m + 1)) v f)
        if m = 0 then .full branch else .short (k.take m) (.full branch)) := by
  cases k with
  | nil => exact absurd rfl hk
  | cons _ _ => rfl

theorem prefixLen_append_left : ∀ (key rest : Key), prefixLen (key ++ rest) key = key.length
  | [], rest => by cases rest <;> rfl
  | a :: key, rest => by
    simp only [List.cons_append, prefixLen, if_true, List.length_cons, prefixLen_append_left key rest]; omega

theorem prefixLen_split : ∀ (p : Key) (a b : Nat) (k1 key1 : Key), a ≠ b →
    prefixLen (p ++ a :: k1) (p ++ b :: key1) = p.length
  | [], a, b, k1, key1, h => by simp [prefixLen, h]
  | x :: p, a, b, k1, key1, h => by
    simp only [List.cons_append, prefixLen, if_true, List.length_cons, prefixLen_split p a b k1 key1 h]; omega

theorem insert_short_prefix (key : Key) (c : Node) (rest : Key) (v : Bytes) (f : Nat) (h : key ++ rest ≠ []) :
    insert (.short key c) (key ++ rest) v (f + 1) = .short key (insert c rest v f) := by
  rw [insert_short key c h]
  simp only [prefixLen_append_left, if_true, List.drop_left]

theorem insert_short_split {p : Key} {a b : Nat} {k1 key1 : Key} {c : Node} (v : Bytes) (f : Nat) (hab : a ≠ b)
    (ht : WF (.short (p ++ b :: key1) c)) :
    insert (.short (p ++ b :: key1) c) (p ++ a :: k1) v (f + 1) =
      mkShort p (.full (((Children.replicate 17).set b (mkShort key1 c)).set a (insert .empty k1 v f))) := by
  rw [insert_short _ c (by simp)]
  have hne : ¬ p.length = (p ++ b :: key1).length := by simp
  have hd : ∀ (x : Nat) (t : Key), (p ++ x :: t).getD p.length 0 = x := fun x t => by simp [List.getD]
  have hr : ∀ (x : Nat) (t : Key), (p ++ x :: t).drop (p.length + 1) = t := fun x t => by
    rw [← List.drop_drop]; simp
  simp only [prefixLen_split p a b k1 key1 hab, hne, if_false, hd, hr, List.take_left]
  have hX : (if key1.isEmpty then c else Node.short key1 c) = mkShort key1 c := by
    rcases wf_short ht with ⟨_, w, rfl⟩ | ⟨_, cs, rfl, _⟩ <;> cases key1 <;> rfl
  rw [hX]
  cases p <;> rfl

theorem insert_nonempty (t : Node) (k : Key) (v : Bytes) (f : Nat) : (insert t k v (f + 1)).isEmpty = false := by
  cases k with
  | nil => rw [insert_nil_key]; rfl
  | cons a r =>
    cases t with
    | empty => rfl
    | value w => rfl
    | full cs => rfl
    | short key c =>
      rw [insert_short key c (by simp)]
      simp only
      by_cases hm : prefixLen (a :: r) key = key.length
      · rw [if_pos hm]; rfl
      · rw [if_neg hm]
        by_cases h0 : prefixLen (a :: r) key = 0
        · rw [if_pos h0]; rfl
        · rw [if_neg h0]; rfl

/-- the old node's side of a split: what is left of it behind its first nibble -/
theorem split_old {b : Nat} {key1 : Key} {c : Node} (h : WF (.short (b :: key1) c)) :
    slotOK b (mkShort key1 c) ∧ b < 17 ∧ (mkShort key1 c).isEmpty = false := by
  rcases wf_short h with ⟨hk, w, rfl⟩ | ⟨hk, cs, rfl, hc⟩
  · rcases tk_cons.mp hk with ⟨rfl, rfl⟩ | ⟨hb, hk1⟩
    · exact ⟨slotOK_val.mpr trivial, by omega, rfl⟩
    · rw [mkShort_value (tk_ne_nil hk1)]
      exact ⟨(slotOK_wf (by omega)).mpr (wf_leaf.mpr hk1), by omega, rfl⟩
  · obtain ⟨hb, hk1⟩ := nk_cons.mp hk.2
    exact ⟨(slotOK_wf (by omega)).mpr (wf_mkShort hk1 hc rfl), by omega, mkShort_isEmpty rfl⟩

theorem upd_insert_empty {k : Key} (v : Bytes) {f : Nat} (hk : TermKey k) (hf : k.length < f) :
    Upd .empty k (some v) (insert .empty k v f) := by
  obtain ⟨f, rfl⟩ := exists_succ_of_lt hf
  obtain ⟨a, r, rfl⟩ := tk_exists_cons hk
  rw [insert_empty]
  exact ⟨wf_leaf.mpr hk, trivial, fun k' hk' => by rw [getN_leaf hk hk', getN_empty]⟩

theorem upd_split {a b : Nat} {k1 key1 : Key} {c : Node} (v : Bytes) {f : Nat} (hab : a ≠ b)
    (hw : WF (.short (b :: key1) c)) (hb : Br c) (hk : TermKey (a :: k1)) (hf : k1.length < f) :
    Upd (.short (b :: key1) c) (a :: k1) (some v)
      (.full (((Children.replicate 17).set b (mkShort key1 c)).set a (insert .empty k1 v f))) := by
  obtain ⟨f, rfl⟩ := exists_succ_of_lt hf
  obtain ⟨hX, hb17, hXne⟩ := split_old hw
  -- the old node as a branch node `B` with the single child `b`; the key is inserted there
  have hwB := wfc_slot_set (wfc_replicate 17 0 rfl) hX
  have hbB := brc_set _ b (mkShort key1 c) (brc_replicate 17) (br_mkShort.mpr hb)
  generalize hB : (Children.replicate 17).set b (mkShort key1 c) = B at hwB hbB ⊢
  have hgb : B.get b = mkShort key1 c := by rw [← hB, Children.get_set_same (by rw [Children.length_replicate]; exact hb17)]
  have hoth : ∀ i, i ≠ b → B.get i = .empty := fun i hi => by
    rw [← hB, Children.get_set_other (Ne.symm hi), Children.get_replicate]
  obtain ⟨h1, h2, h3⟩ := full_set hwB hbB hk (x := some v) (c' := insert .empty k1 v (f + 1))
    (fun e _ => by rw [e, insert_nil_key]; exact ⟨trivial, rfl⟩)
    (fun hr _ => by rw [hoth a hab]; exact upd_insert_empty v hr hf)
  refine ⟨h1, ⟨⟨a, b, hab, ?_, ?_⟩, h2⟩, fun k' hk' => ?_⟩
  · rw [Children.get_set_same (wfc_child hwB hk).1]
    exact insert_nonempty _ _ _ _
  · rw [Children.get_set_other hab, hgb]
    exact hXne
  · rw [h3 k' hk', getN_single (by rw [hgb]; exact wfv_of_slot hX) (by rw [hgb, mkShort_cons hw]; exact hw) hoth hk',
      hgb, mkShort_cons hw]

theorem insert_ok : ∀ (f : Nat) (t : Node) (k : Key) (v : Bytes), WF t → Br t → TermKey k → k.length < f →
    Upd t k (some v) (insert t k v f) := by
  intro f
  induction f with
  | zero => intro t k v _ _ _ h; omega
  | succ f ih =>
    intro t k v ht hb hk hf
    cases t with
    | empty => exact upd_insert_empty v hk hf
    | value w => exact ht.elim
    | full cs =>
      obtain ⟨i, r, rfl⟩ := tk_exists_cons hk
      obtain ⟨f, rfl⟩ := exists_succ_of_lt (Nat.lt_of_succ_lt_succ hf)
      rw [insert_full]
      obtain ⟨h1, h2, h3⟩ := full_set ht hb.2 hk (x := some v) (c' := insert (cs.get i) r v (f + 1))
        (fun e _ => by rw [e, insert_nil_key]; exact ⟨trivial, rfl⟩)
        (fun hr hwc => ih _ r v hwc (brc_get cs i hb.2) hr (by simpa using hf))
      exact ⟨h1, ⟨two_set hb.1 (insert_nonempty _ _ _ _), h2⟩, h3⟩
    | short key c =>
      rcases key_split k key with ⟨rest, rfl⟩ | ⟨b, key1, rfl⟩ | ⟨p, a, k1, b, key1, hab, rfl, rfl⟩
      · rw [insert_short_prefix _ _ _ _ _ (tk_ne_nil hk)]
        have hfr := rest_length_lt (wf_short_key_ne ht) hf
        obtain ⟨f, rfl⟩ := exists_succ_of_lt hfr
        rcases wf_short ht with ⟨hkey, w, rfl⟩ | ⟨hkey, cs, rfl, hc⟩
        · obtain rfl := tk_append_nil hkey hk
          rw [insert_nil_key, List.append_nil]
          exact Upd.leaf hkey w (wf_leaf.mpr hkey) trivial (fun k' hk' => getN_leaf hkey hk' v)
        · have hr := tk_rest hk hkey.2
          have u := (ih (.full cs) rest v hc hb hr hfr).under hkey.2 hc rfl (insert_nonempty _ _ _ _)
          obtain ⟨i, r, rfl⟩ := tk_exists_cons hr
          rw [insert_full] at u ⊢
          rwa [mkShort_full hkey.1, mkShort_full hkey.1] at u
      · exact (no_strict_prefix hk ht).elim
      · obtain ⟨hp, hw⟩ := wf_short_tail ht
        rw [insert_short_split v f hab ht]
        have u := (upd_split v hab hw hb (tk_rest hk hp) (f := f) (by simp at hf; omega)).under hp hw rfl rfl
        rwa [mkShort_short] at u

end AnnVerif.Trie
