/-
  Small general facts about `if`, lists and sums that the development uses and core does not have.
-/
namespace AnnVerif

/-- a guard that answers something else lets the answer `x` through only by not firing; a chain of
    such guards is read off by `simp only [guard_eq_iff, ne_eq, reduceCtorEq, not_false_eq_true]`
    (the side condition `e ≠ x` is known only once the guard is matched, so it is simp's discharger
    that proves it, once per guard) -/
theorem guard_eq_iff {α : Type} {c : Prop} [Decidable c] {e r x : α} (he : e ≠ x) :
    (if c then e else r) = x ↔ ¬ c ∧ r = x := by
  by_cases h : c
  · simp [h, he]
  · simp [h]

/-- a result that differs from what the early exits of an if-chain return has passed every test -/
theorem ne_of_ite_ne {α : Type} {c : Prop} [Decidable c] {x y : α} (h : (if c then x else y) ≠ x) : ¬ c ∧ y ≠ x :=
  Classical.not_imp.mp (mt ite_eq_left_iff.mpr h)

theorem not_or_eq_true_iff (a b : Bool) : (!a || b) = true ↔ (a = true → b = true) := by
  cases a <;> simp

theorem map_modify {α β : Type} (g : α → β) (f : α → α) (f' : β → β) (h : ∀ a, g (f a) = f' (g a))
    (l : List α) (i : Nat) : (l.modify i f).map g = (l.map g).modify i f' := by
  apply List.ext_getElem?
  intro j
  simp only [List.getElem?_map, List.getElem?_modify]
  cases l[j]? with
  | none => rfl
  | some a =>
    simp only [Option.map_some, Functor.map]
    split
    · rw [h]
    · rfl

theorem map_modify_eq {α β : Type} (g : α → β) (f : α → α) (h : ∀ a, g (f a) = g a) (l : List α)
    (i : Nat) : (l.modify i f).map g = l.map g :=
  (map_modify g f id h l i).trans (List.modify_id ..)

theorem getElem?_set_cases {α : Type} {l : List α} {i j : Nat} {a x : α}
    (h : (l.set i a)[j]? = some x) : (j = i ∧ x = a) ∨ (j ≠ i ∧ l[j]? = some x) := by
  rw [List.getElem?_set] at h
  by_cases hij : i = j
  · rw [if_pos hij] at h
    split at h
    · exact Or.inl ⟨hij.symm, (Option.some.inj h).symm⟩
    · cases h
  · rw [if_neg hij] at h; exact Or.inr ⟨Ne.symm hij, h⟩

theorem getElem?_concat_eq_some {α : Type} {l : List α} {a x : α} {k : Nat} :
    (l ++ [a])[k]? = some x ↔ l[k]? = some x ∨ (k = l.length ∧ a = x) := by
  rcases Nat.lt_trichotomy k l.length with h | h | h
  · rw [List.getElem?_append_left h]
    exact ⟨.inl, fun h' => h'.elim id (fun e => absurd e.1 (Nat.ne_of_lt h))⟩
  · subst h
    simp
  · rw [List.getElem?_eq_none (by simp; omega), List.getElem?_eq_none (by omega)]
    exact ⟨nofun, fun h' => h'.elim nofun (fun e => absurd e.1 (Nat.ne_of_gt h))⟩

theorem sum_nonneg (ps : List Int) (hp : ∀ p ∈ ps, 0 ≤ p) : 0 ≤ ps.sum := by
  induction ps with
  | nil => exact Int.le_refl 0
  | cons q qs ih =>
    obtain ⟨hq, hqs⟩ := List.forall_mem_cons.mp hp
    have := ih hqs
    rw [List.sum_cons]
    omega

theorem sum_update (l : List Nat) (hnd : l.Nodup) (f g : Nat → Nat) (a : Nat) (ha : a ∈ l)
    (hfg : ∀ b, b ≠ a → g b = f b) : (l.map g).sum + f a = (l.map f).sum + g a := by
  induction l with
  | nil => simp at ha
  | cons x r ih =>
    rw [List.nodup_cons] at hnd
    simp only [List.map_cons, List.sum_cons]
    rcases List.mem_cons.mp ha with rfl | ha'
    · have : (r.map g) = (r.map f) := List.map_congr_left fun b hb => hfg b (fun e => hnd.1 (e ▸ hb))
      rw [this]; omega
    · rw [hfg x (fun e => hnd.1 (e ▸ ha'))]
      have := ih hnd.2 ha'
      omega

theorem exists_succ_of_lt {m n : Nat} (h : m < n) : ∃ k, n = k + 1 := ⟨n - 1, by omega⟩

/-! Invariants that speak of an earlier and a later element of a history by their positions
    (`A3Inv`, `PastOK`) are `List.Pairwise`, whose lemmas do the index arithmetic. -/

theorem pairs_iff {α : Type} {P : α → α → Prop} {l : List α} :
    (∀ (i j : Nat) (_ : i < j) (hj : j < l.length), P (l[i]'(by omega)) l[j]) ↔ l.Pairwise P :=
  ⟨fun h => List.pairwise_iff_getElem.mpr fun i j _ hj hij => h i j hij hj,
   fun h i j hij hj => List.pairwise_iff_getElem.mp h i j (by omega) hj hij⟩

theorem pairs_append {α : Type} {P : α → α → Prop} {l l' x : List α} (hl : l' = l ++ x) (hx : x.Pairwise P)
    (old : ∀ (i j : Nat) (_ : i < j) (hj : j < l.length), P (l[i]'(by omega)) l[j])
    (new : ∀ v ∈ x, ∀ p ∈ l, P p v) :
    ∀ (i j : Nat) (_ : i < j) (hj : j < l'.length), P (l'[i]'(by omega)) l'[j] :=
  pairs_iff.mpr (hl ▸ List.pairwise_append.mpr ⟨pairs_iff.mp old, hx, fun p hp v hv => new v hv p hp⟩)

theorem pairwise_of_length_le {α : Type} {R : α → α → Prop} : ∀ {l : List α}, l.length ≤ 1 → l.Pairwise R
  | [], _ => .nil
  | [a], _ => List.pairwise_singleton R a
  | _ :: _ :: _, h => absurd h (by simp)

theorem pairwise_mem {α : Type} {R : α → α → Prop} {l : List α} (p : l.Pairwise R) {a b : α} (ha : a ∈ l) (hb : b ∈ l) :
    a = b ∨ R a b ∨ R b a :=
  List.Pairwise.forall_of_forall_of_flip (R := fun a b => a = b ∨ R a b ∨ R b a) (fun _ _ => .inl rfl)
    (p.imp (.inr ∘ .inl)) (p.imp (.inr ∘ .inr)) ha hb

end AnnVerif
