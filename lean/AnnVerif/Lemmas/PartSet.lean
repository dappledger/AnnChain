/-
  Part sets (gemmill/types/part_set.go): a block is cut into parts whose hashes are the leaves of a simple
  Merkle tree; the receiver starts from the header (total, root) and adds parts as they arrive. `Inv`: every
  stored part sits at its index and carries the leaf hash of that index, or the combiner collides. A complete
  set with the invariant reads back the data that was cut (`Inv.assemble`), up to a hash collision.
-/
import AnnVerif.Lemmas.Merkle
namespace AnnVerif.Merkle

variable (H : Bytes → Bytes) (N : Bytes → Bytes → Bytes)

/-- the leaf hash collides on some two byte strings -/
def CollisionH : Prop := ∃ a b : Bytes, a ≠ b ∧ H a = H b

theorem chunksAux_flatten (sz : Nat) (hsz : 0 < sz) (fuel : Nat) (d : Bytes) (hd : d.length ≤ fuel) :
    (chunksAux sz fuel d).flatten = d := by
  fun_induction chunksAux sz fuel d with
  | case1 => rfl
  | case2 d hne => exact absurd (List.eq_nil_of_length_eq_zero (Nat.le_zero.1 hd)) hne
  | case3 fuel d hne ih =>
    have := List.length_pos_iff.2 hne
    rw [List.flatten_cons, ih (by rw [List.length_drop]; omega), List.take_append_drop]

theorem chunks_flatten (sz : Nat) (hsz : 0 < sz) (d : Bytes) : (chunks sz d).flatten = d :=
  chunksAux_flatten sz hsz d.length d (Nat.le_refl _)

def countSome (l : List (Option Part)) : Nat := (l.filter Option.isSome).length

theorem countSome_replicate (n : Nat) : countSome (List.replicate n none) = 0 := by
  rw [countSome, List.filter_replicate]; rfl

theorem countSome_set (l : List (Option Part)) (i : Nat) (p : Part) (h : l[i]? = some none) :
    countSome (l.set i (some p)) = countSome l + 1 := by
  obtain ⟨hi, hn⟩ := List.getElem?_eq_some_iff.1 h
  rw [countSome, countSome, ← List.countP_eq_length_filter, ← List.countP_eq_length_filter, List.countP_set hi, hn]
  rfl

/-- what holds of every part set reachable from `fromHeader n r` where `r` is the root of the
    leaf hashes `hs`: each stored part carries the genuine leaf hash at its slot (or the combiner
    collides). -/
structure Inv (hs : List Bytes) (r : Bytes) (ps : PartSet) : Prop where
  total : ps.total = hs.length
  hash : ps.hash = r
  len : ps.parts.length = hs.length
  count : ps.count = countSome ps.parts
  genuine : ∀ (i : Nat) (hi : i < hs.length) (p : Part), ps.parts[i]? = some (some p) →
    p.index = (i : Int) ∧ (H p.bytes = hs[i] ∨ CollisionN N)

theorem inv_fromHeader (hs : List Bytes) (r : Bytes) : Inv H N hs r (fromHeader hs.length r) := by
  refine ⟨rfl, rfl, List.length_replicate, (countSome_replicate _).symm, fun i hi p h => ?_⟩
  rw [fromHeader, List.getElem?_replicate, if_pos hi] at h
  cases h

theorem addPart_eq (cfg : Cfg) (ps : PartSet) (p : Part) (v : Bool) :
    addPart H N cfg ps p v =
      (if addDecide H N cfg ps p v = .added then
        { ps with parts := ps.parts.set p.index.toNat (some p), count := ps.count + 1 } else ps,
       addDecide H N cfg ps p v) := by
  unfold addPart
  generalize addDecide H N cfg ps p v = o
  cases o <;> rfl

theorem addPart_snd (cfg : Cfg) (ps : PartSet) (p : Part) (v : Bool) :
    (addPart H N cfg ps p v).2 = addDecide H N cfg ps p v :=
  congrArg Prod.snd (addPart_eq H N cfg ps p v)

theorem addDecide_added_iff (cfg : Cfg) (ps : PartSet) (p : Part) (v : Bool) :
    addDecide H N cfg ps p v = .added ↔
      0 ≤ p.index ∧ p.index < (ps.total : Int) ∧ ps.parts[p.index.toNat]? = some none ∧
        (v = true → verify N cfg p.index ps.total (H p.bytes) p.aunts ps.hash = .ok true) := by
  unfold addDecide
  by_cases hg : ((cfg.checkNeg && decide (p.index < 0)) || decide (p.index ≥ (ps.total : Int))) = true
  · rw [if_pos hg]
    simp only [Bool.or_eq_true, Bool.and_eq_true, decide_eq_true_eq] at hg
    exact ⟨nofun, by omega⟩
  rw [if_neg hg]
  simp only [Bool.or_eq_true, Bool.and_eq_true, decide_eq_true_eq, not_or] at hg
  by_cases h0 : p.index < 0
  · rw [if_pos h0]
    exact ⟨nofun, by omega⟩
  rw [if_neg h0]
  have hr : (0 ≤ p.index ∧ p.index < (ps.total : Int)) := by omega
  cases ps.parts[p.index.toNat]? with
  | none => simp
  | some slot =>
    cases slot with
    | some q => simp
    | none =>
      cases v with
      | false => simp [hr]
      | true =>
        simp only [if_true, hr, true_and, forall_const]
        cases verify N cfg p.index ps.total (H p.bytes) p.aunts ps.hash with
        | ok b => cases b <;> simp
        | err e => simp
        | panic s => simp

/-- C17.3 (accepted only if genuine), read off the verdict -/
theorem addDecide_added_genuine (cfg : Cfg) (hs : List Bytes) (r : Bytes) (hr : root N hs = some r)
    (ps : PartSet) (p : Part) (hinv : Inv H N hs r ps)
    (h : addDecide H N cfg ps p true = .added) :
    ∃ i : Nat, p.index = (i : Int) ∧ ∃ hi : i < hs.length, ps.parts[i]? = some none ∧
      (H p.bytes = hs[i] ∨ CollisionN N) := by
  obtain ⟨h0, h1, hslot, hv⟩ := (addDecide_added_iff H N cfg ps p true).1 h
  have hi : p.index.toNat < hs.length := by rw [← hinv.total]; omega
  have hidx : p.index = (p.index.toNat : Int) := (Int.toNat_of_nonneg h0).symm
  have hc := (verify_ok_true_iff N).1 (hv rfl)
  rw [hidx, hinv.total, hinv.hash] at hc
  exact ⟨p.index.toNat, hidx, hi, hslot, computeRev_sound N cfg hs p.index.toNat hi (H p.bytes) _ r hr hc⟩

theorem addPart_inv (cfg : Cfg) (hs : List Bytes) (r : Bytes) (hr : root N hs = some r)
    (ps : PartSet) (p : Part) (hinv : Inv H N hs r ps) :
    Inv H N hs r (addPart H N cfg ps p true).1 := by
  rw [addPart_eq]
  by_cases hd : addDecide H N cfg ps p true = .added
  · obtain ⟨i, hidx, hi, hslot, hgen⟩ := addDecide_added_genuine H N cfg hs r hr ps p hinv hd
    have hto : p.index.toNat = i := by omega
    rw [if_pos hd, hto]
    refine ⟨hinv.total, hinv.hash, List.length_set.trans hinv.len,
      (congrArg (· + 1) hinv.count).trans (countSome_set _ _ _ hslot).symm, fun j hj q hq => ?_⟩
    by_cases hji : i = j
    · subst hji
      rw [List.getElem?_set_self (hinv.len ▸ hi)] at hq
      cases hq
      exact ⟨hidx, hgen⟩
    · rw [List.getElem?_set_ne hji] at hq
      exact hinv.genuine j hj q hq
  · rw [if_neg hd]
    exact hinv

def addAll (cfg : Cfg) (ps : PartSet) (arrivals : List Part) : PartSet :=
  arrivals.foldl (fun s p => (addPart H N cfg s p true).1) ps

theorem addAll_inv (cfg : Cfg) (hs : List Bytes) (r : Bytes) (hr : root N hs = some r)
    (arrivals : List Part) : ∀ (ps : PartSet), Inv H N hs r ps →
    Inv H N hs r (addAll H N cfg ps arrivals) := by
  induction arrivals with
  | nil => intro ps h; exact h
  | cons p t ih =>
    intro ps h
    exact ih _ (addPart_inv H N cfg hs r hr ps p h)

theorem Inv.full {hs : List Bytes} {r : Bytes} {ps : PartSet} (hinv : Inv H N hs r ps)
    (hc : isComplete ps = true) (i : Nat) (hi : i < hs.length) :
    ∃ p, ps.parts[i]? = some (some p) ∧ (H p.bytes = hs[i] ∨ CollisionN N) := by
  have hall : ∀ x ∈ ps.parts, x.isSome := List.length_filter_eq_length_iff.1 <| by
    rw [← countSome, ← hinv.count, hinv.len, ← hinv.total]
    exact eq_of_beq hc
  have hl : i < ps.parts.length := hinv.len ▸ hi
  have hp := List.getElem?_eq_getElem hl
  rw [← Option.some_get (hall _ (List.getElem_mem hl))] at hp
  exact ⟨_, hp, (hinv.genuine i hi _ hp).2⟩

theorem Inv.assemble {cs : List Bytes} {r : Bytes} {ps : PartSet} (hinv : Inv H N (cs.map H) r ps)
    (hc : isComplete ps = true) : assemble ps = cs.flatten ∨ CollisionN N ∨ CollisionH H := by
  refine Classical.or_iff_not_imp_right.2 fun hno => congrArg List.flatten ?_
  -- slot by slot: the stored bytes and the chunk have the same leaf hash, so they are equal or collide
  refine List.ext_getElem (by rw [List.length_map, hinv.len, List.length_map]) fun i _ hi => ?_
  obtain ⟨p, hp, hg⟩ := hinv.full H N hc i (by rwa [List.length_map])
  rw [List.getElem_map, (List.getElem?_eq_some_iff.1 hp).2]
  refine Classical.byContradiction fun hne => hno (hg.symm.imp id fun e => ⟨_, _, hne, ?_⟩)
  rwa [List.getElem_map] at e

/-- C17.4 (reassembly): start from the header of `data` split into `sz`-byte parts; offer ANY
    sequence of parts (any order, duplicates, forged parts, out-of-range and negative indices).
    If the set reports complete, reading it back yields exactly `data` — or there is a hash collision
    (of the combiner or of the leaf hash). -/
theorem reassembly (cfg : Cfg) (data : Bytes) (sz : Nat) (hsz : 0 < sz) (r : Bytes)
    (hr : root N ((chunks sz data).map H) = some r) (arrivals : List Part)
    (hcomplete : isComplete (addAll H N cfg (fromHeader (chunks sz data).length r) arrivals) = true) :
    assemble (addAll H N cfg (fromHeader (chunks sz data).length r) arrivals) = data
      ∨ CollisionN N ∨ CollisionH H := by
  have hinv := addAll_inv H N cfg _ r hr arrivals _ (inv_fromHeader H N ((chunks sz data).map H) r)
  rw [List.length_map] at hinv
  have h := hinv.assemble H N hcomplete
  rwa [chunks_flatten sz hsz] at h

end AnnVerif.Merkle
