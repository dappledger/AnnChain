/-
  When each stage of `ValidateBlock` accepts: `ValidateBasic`, `ValidateCommit`, the LastCommit part
  (`VerifyCommit` itself is in Lemmas/VoteCommit.lean) and `ValidateBlock` as a whole. `Commit.ValidateBasic`
  (`commitValidateBasic`) is left as the model has it: no theorem looks into it. Each chain of guards is read
  off with `guard_eq_iff` (Lemmas/Logic.lean says how).
-/
import AnnVerif.Model.Block
import AnnVerif.Lemmas.VoteCommit

namespace AnnVerif

namespace Block
open VoteSet

variable (cfg : Cfg) (sigok : Nat → Vote → Bool) (st : State) (b : Block)

theorem validateBasic_eq_ok : validateBasic st b = .ok ↔
    b.hdr.chainID = st.chainID ∧ b.hdr.height = st.lastBlockHeight + 1 ∧ b.hdr.numTxs = b.nTxs ∧
    b.hdr.lastBlockID = st.lastBlockID ∧ b.hdr.dataHash = b.dataDigest ∧ b.hdr.appHash = st.appHash ∧
    b.hdr.receiptsHash = st.receiptsHash := by
  simp only [validateBasic, guard_eq_iff, ne_eq, reduceCtorEq, not_false_eq_true, Classical.not_not, and_true]

theorem validateCommit_eq_ok : validateCommit cfg b = .ok ↔
    b.hdr.lastCommitHash = b.commitDigest ∧ (b.hdr.height ≠ 1 → commitValidateBasic cfg b.commit = .ok) := by
  simp only [validateCommit, guard_eq_iff, ne_eq, reduceCtorEq, not_false_eq_true, Classical.not_not,
    ite_eq_right_iff]

theorem validateLastCommit_first (hh : b.hdr.height = 1) :
    validateLastCommit cfg sigok st b = .ok ↔ b.commit.precommits = [] := by
  simp only [validateLastCommit, hh, if_true, guard_eq_iff, ne_eq, reduceCtorEq, not_false_eq_true,
    Classical.not_not, and_true, List.length_eq_zero_iff]

theorem validateLastCommit_later (hh : b.hdr.height ≠ 1) :
    validateLastCommit cfg sigok st b = .ok ↔
      b.commit.precommits.length = st.lastValidators.length ∧
      verifyCommit cfg.vs sigok st.lastValidators st.lastBlockID (b.hdr.height - 1) b.commit = .ok := by
  simp only [validateLastCommit, hh, if_false, guard_eq_iff, ne_eq, reduceCtorEq, not_false_eq_true,
    Classical.not_not, and_congr_right_iff]
  intro _
  split
  · rename_i h; exact ⟨fun _ => h, fun _ => rfl⟩
  · rename_i h; rw [h]; exact ⟨nofun, nofun⟩
  · rename_i h _; exact ⟨nofun, fun h' => absurd h' h⟩

theorem validateBlock_eq_ok : validateBlock cfg sigok st b = .ok ↔
    validateBasic st b = .ok ∧ validateCommit cfg b = .ok ∧ hasAddress st.validators b.hdr.proposer = true ∧
    (cfg.checkValHash = true → b.hdr.validatorsHash = st.valHash) ∧ validateLastCommit cfg sigok st b = .ok := by
  unfold validateBlock
  split
  · rename_i hb
    split
    · rename_i hc
      simp only [hb, hc, guard_eq_iff, ne_eq, reduceCtorEq, not_false_eq_true, true_and, Bool.not_eq_true',
        Bool.not_eq_false, not_and, Classical.not_not]
    · rename_i hne
      exact ⟨fun h => absurd h hne, fun h => absurd h.2.1 hne⟩
  · rename_i hne
    exact ⟨fun h => absurd h hne, fun h => absurd h.1 hne⟩
end Block

end AnnVerif
