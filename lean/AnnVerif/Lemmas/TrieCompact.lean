/-
  Hex-prefix (compact) encoding of trie keys: `compactToHex (hexToCompact k) = k` for every key a
  well-formed trie holds in a short node (odd or even length, with or without the terminator).
-/
import AnnVerif.Lemmas.TrieWF
namespace AnnVerif.Trie

theorem hasTerm_tk {k : Key} (h : TermKey k) : hasTerm k = true := by
  obtain ⟨pre, rfl, _⟩ := h
  simp [hasTerm]

theorem hasTerm_nk {k : Key} (h : NK k) : hasTerm k = false := by
  unfold hasTerm
  cases hg : k.getLast? with
  | none => rfl
  | some x =>
    have := h x (List.mem_of_getLast? hg)
    simp; omega

theorem byte_nibbles {a b : Nat} (ha : a < 16) (hb : b < 16) :
    (UInt8.ofNat (a * 16 + b)).toNat / 16 = a ∧ (UInt8.ofNat (a * 16 + b)).toNat % 16 = b := by
  rw [UInt8.toNat_ofNat', Nat.mod_eq_of_lt (by omega), Nat.mul_comm, Nat.mul_add_div (by decide), Nat.mul_add_mod,
    Nat.div_eq_of_lt hb, Nat.mod_eq_of_lt hb]
  exact ⟨rfl, rfl⟩

theorem unpack_pack : ∀ (hex : List Nat), hex.length % 2 = 0 → NK hex → unpackBytes (hexToCompact.pack hex) = hex
  | [], _, _ => rfl
  | [_], h, _ => by simp at h
  | a :: b :: r, h, hlt => by
    obtain ⟨ha, hr⟩ := nk_cons.mp hlt
    obtain ⟨hb, hr⟩ := nk_cons.mp hr
    rw [hexToCompact.pack, unpackBytes_cons, (byte_nibbles ha hb).1, (byte_nibbles ha hb).2,
      unpack_pack r (by simp at h; omega) hr]

/-- the first byte: the flag nibble (terminator bit `t`, odd-length bit `o`) and the nibble `x` -/
theorem compactToHex_cons {t o x : Nat} (ht : t ≤ 1) (ho : o ≤ 1) (hx : x < 16) (bs : Bytes) :
    compactToHex (UInt8.ofNat ((2 * t + o) * 16 + x) :: bs) =
      (if o = 1 then x :: unpackBytes bs else unpackBytes bs) ++ (if t = 1 then [16] else []) := by
  have ho' : (2 * t + o) % 2 = 1 ↔ o = 1 := by omega
  have ht' : 2 * t + o ≥ 2 ↔ t = 1 := by omega
  obtain ⟨hflag, hlow⟩ := byte_nibbles (show 2 * t + o < 16 by omega) hx
  simp only [compactToHex, unpackBytes, hflag, hlow, ho', ht']
  by_cases h : t = 1
  · rw [if_pos h, if_pos h]
  · rw [if_neg h, if_neg h, List.append_nil]

/-- the compact form of the nibbles `hex` under the terminator flag `t`: the flag nibble (2 for the
    terminator, plus 1 for an odd number of nibbles), the odd nibble if any, the others two to a byte -/
def compactOf (t : Nat) (hex : List Nat) : Bytes :=
  if hex.length % 2 = 1 then UInt8.ofNat ((2 * t + 1) * 16 + hex.headD 0) :: hexToCompact.pack hex.tail
  else UInt8.ofNat (2 * t * 16) :: hexToCompact.pack hex

theorem hexToCompact_eq (k : Key) :
    hexToCompact k = if hasTerm k then compactOf 1 k.dropLast else compactOf 0 k := by
  unfold hexToCompact compactOf
  by_cases h : hasTerm k = true
  · rw [if_pos h, if_pos h]
  · rw [if_neg h, if_neg h]

theorem compact_core (hex : List Nat) (hlt : NK hex) (t : Nat) (ht : t ≤ 1) :
    compactToHex (compactOf t hex) = hex ++ if t = 1 then [16] else [] := by
  unfold compactOf
  by_cases hodd : hex.length % 2 = 1
  · rw [if_pos hodd]
    cases hex with
    | nil => simp at hodd
    | cons a tl =>
      obtain ⟨ha, htl⟩ := nk_cons.mp hlt
      rw [List.headD_cons, List.tail_cons, compactToHex_cons ht (Nat.le_refl 1) ha, if_pos rfl,
        unpack_pack tl (by simp at hodd; omega) htl]
  · rw [if_neg hodd, show 2 * t * 16 = (2 * t + 0) * 16 + 0 by omega,
      compactToHex_cons ht (Nat.zero_le 1) (Nat.zero_lt_succ 15), if_neg (by omega), unpack_pack hex (by omega) hlt]

/-- C11 E2 for keys without terminator, of odd or even length (the extension-node case) -/
theorem compact_roundtrip_nk {k : Key} (hk : NK k) : compactToHex (hexToCompact k) = k := by
  rw [hexToCompact_eq, hasTerm_nk hk]
  simpa using compact_core k hk 0 (by omega)

example : Trie.compactToHex (Trie.hexToCompact [1, 2, 3, 16]) = [1, 2, 3, 16] ∧
          Trie.compactToHex (Trie.hexToCompact [1, 2, 16]) = [1, 2, 16] ∧
          Trie.compactToHex (Trie.hexToCompact [7]) = [7] := by decide

/-- C11 E2 for every key a well-formed trie can hold in a short node -/
theorem compact_roundtrip (k : Key) (h : TermKey k ∨ ExtKey k) : compactToHex (hexToCompact k) = k := by
  rcases h with ⟨pre, rfl, hpre⟩ | ⟨_, hk⟩
  · rw [hexToCompact_eq, hasTerm_tk ⟨pre, rfl, hpre⟩, if_pos rfl, List.dropLast_concat]
    simpa using compact_core pre hpre 1 (by omega)
  · exact compact_roundtrip_nk hk

theorem hexToCompact_injective (a b : Key) (ha : TermKey a ∨ ExtKey a) (hb : TermKey b ∨ ExtKey b)
    (h : hexToCompact a = hexToCompact b) : a = b := by
  rw [← compact_roundtrip a ha, ← compact_roundtrip b hb, h]

theorem pack_length : ∀ hex : List Nat, (hexToCompact.pack hex).length ≤ hex.length / 2
  | [] => by simp [hexToCompact.pack]
  | [_] => by simp [hexToCompact.pack]
  | _ :: _ :: r => by
    have := pack_length r
    simp only [hexToCompact.pack, List.length_cons]; omega

theorem compactOf_length_le (t : Nat) (hex : List Nat) : (compactOf t hex).length ≤ hex.length / 2 + 1 := by
  unfold compactOf
  by_cases h : hex.length % 2 = 1
  · have := pack_length hex.tail
    rw [if_pos h]; simp only [List.length_cons, List.length_tail] at this ⊢; omega
  · have := pack_length hex
    rw [if_neg h]; simp only [List.length_cons]; omega

theorem hexToCompact_length_le (k : Key) : (hexToCompact k).length ≤ k.length / 2 + 1 := by
  rw [hexToCompact_eq]
  by_cases ht : hasTerm k = true
  · have := compactOf_length_le 1 k.dropLast
    rw [if_pos ht]; rw [List.length_dropLast] at this; omega
  · rw [if_neg ht]; exact compactOf_length_le 0 k

end AnnVerif.Trie
