/-
  `delete` on the Merkle Patricia trie model is an update (`Upd`) that removes the key: the trie stays
  well formed with two children in every branch node, the deleted key is gone, every other terminated
  key reads as before - including the collapse of a branch node that is left with a single child and
  the merge of a short node with a short child, both of which are `mkShort` (`delete_ok`).
  With `insert_ok` that makes `update` the update of a finite map (`update_ok`).
-/
import AnnVerif.Lemmas.TrieMap
namespace AnnVerif.Trie

theorem mem_nonEmpty : ∀ (cs : Children) (j x : Nat),
    x ∈ cs.nonEmpty j ↔ ∃ i, x = j + i ∧ (cs.get i).isEmpty = false
  | .nil, j, x => by simp [Children.nonEmpty, Children.get, Node.isEmpty]
  | .cons n r, j, x => by
    simp only [Children.nonEmpty, List.mem_append, mem_nonEmpty r (j + 1) x]
    constructor
    · rintro (h | ⟨i, rfl, hi⟩)
      · by_cases hn : n.isEmpty <;> simp [hn] at h
        exact ⟨0, h, by simpa [Children.get] using hn⟩
      · exact ⟨i + 1, by omega, hi⟩
    · rintro ⟨i, rfl, hi⟩
      cases i with
      | zero => exact Or.inl (by simp [show n.isEmpty = false from hi])
      | succ i => exact Or.inr ⟨i, by omega, hi⟩

theorem single_of_nonEmpty {cs : Children} {pos : Nat} (h : cs.nonEmpty 0 = [pos]) :
    (cs.get pos).isEmpty = false ∧ ∀ i, i ≠ pos → cs.get i = .empty := by
  have hm := mem_nonEmpty cs 0
  rw [h] at hm
  obtain ⟨i, hi, hg⟩ := (hm pos).mp (by simp)
  obtain rfl : i = pos := by omega
  refine ⟨hg, fun j hj => ?_⟩
  refine (empty_or (cs.get j)).resolve_right fun hje => ?_
  have := (hm j).mpr ⟨j, by omega, hje⟩
  simp at this; omega

theorem two_of_nonEmpty : ∀ (cs : Children) (j x y : Nat) (l : List Nat), cs.nonEmpty j = x :: y :: l → Two cs
  | .nil, _, _, _, _, h => by cases h
  | .cons n r, j, x, y, l, h => by
    rw [Children.nonEmpty] at h
    by_cases hn : n.isEmpty = true
    · rw [if_pos hn, List.nil_append] at h
      obtain ⟨a, b, hab, ha, hb⟩ := two_of_nonEmpty r (j + 1) x y l h
      exact ⟨a + 1, b + 1, by omega, ha, hb⟩
    · rw [if_neg hn, List.singleton_append] at h
      obtain ⟨i, _, hi⟩ := (mem_nonEmpty r (j + 1) y).mp (by rw [(List.cons.inj h).2]; exact List.mem_cons_self)
      exact ⟨0, i + 1, by omega, by simpa [Children.get] using hn, hi⟩

theorem delete_empty (k : Key) (f : Nat) : delete .empty k f = .empty := by
  cases f <;> rfl

theorem delete_value (v : Bytes) (k : Key) (f : Nat) : delete (.value v) k (f + 1) = .empty := rfl

theorem delete_slotVal {c : Node} (h : SlotVal c) (k : Key) (f : Nat) : delete c k (f + 1) = .empty := by
  rcases slotVal_cases h with rfl | ⟨w, rfl⟩
  · exact delete_empty k _
  · exact delete_value w k f

/-- what a branch node with the single child `pos` turns into -/
def collapse (cs : Children) (pos : Nat) : Node :=
  if pos ≠ 16 then
    match cs.get pos with
    | .short ck cv => .short (pos :: ck) cv
    | c => .short [pos] c
  else .short [pos] (cs.get pos)

theorem collapse_eq {cs : Children} {pos : Nat} (h : slotOK pos (cs.get pos)) :
    collapse cs pos = mkShort [pos] (cs.get pos) := by
  rw [collapse, mkShort_ne (List.cons_ne_nil _ _)]
  by_cases h16 : pos = 16
  · subst h16
    rcases slotVal_cases (slotOK_val.mp h) with e | ⟨w, e⟩ <;> rw [e] <;> rfl
  · rw [if_pos h16]
    rfl

theorem delete_full_eq (cs : Children) (i : Nat) (r : Key) (f : Nat) :
    delete (.full cs) (i :: r) (f + 1) =
      match (cs.set i (delete (cs.get i) r f)).nonEmpty 0 with
      | [pos] => collapse (cs.set i (delete (cs.get i) r f)) pos
      | _ => .full (cs.set i (delete (cs.get i) r f)) := rfl

theorem delete_full_nonempty (cs : Children) (i : Nat) (r : Key) (f : Nat) :
    (delete (.full cs) (i :: r) (f + 1)).isEmpty = false := by
  rw [delete_full_eq]
  split
  · unfold collapse
    split
    · split <;> rfl
    · rfl
  · rfl

theorem delete_short_eq (key : Key) (c : Node) (k : Key) (f : Nat) :
    delete (.short key c) k (f + 1) =
      (let m := prefixLen k key
       if m < key.length then .short key c
       else if m = k.length then .empty
       else
        match delete c (k.drop key.length) f with
        | .short ck cv => .short (key ++ ck) cv
        | c' => .short key c') := rfl

theorem delete_short_prefix {key : Key} (hkey : key ≠ []) (c : Node) (rest : Key) (f : Nat) :
    delete (.short key c) (key ++ rest) (f + 1) =
      if rest = [] then .empty else mkShort key (delete c rest f) := by
  rw [delete_short_eq]
  simp only [prefixLen_append_left, Nat.lt_irrefl, if_false, List.length_append, List.drop_left]
  by_cases hr : rest = []
  · subst hr; simp
  · have : ¬ key.length = key.length + rest.length := by
      have := List.length_pos_iff.mpr hr; omega
    rw [if_neg this, if_neg hr, mkShort_ne hkey]
    rfl

theorem delete_short_split (p : Key) (a b : Nat) (k1 key1 : Key) (c : Node) (f : Nat) (hab : a ≠ b) :
    delete (.short (p ++ b :: key1) c) (p ++ a :: k1) (f + 1) = .short (p ++ b :: key1) c := by
  rw [delete_short_eq]
  simp only [prefixLen_split p a b k1 key1 hab]
  rw [if_pos (by simp)]

theorem delete_ok : ∀ (f : Nat) (t : Node) (k : Key), WF t → Br t → TermKey k → k.length < f →
    Upd t k none (delete t k f) := by
  intro f
  induction f with
  | zero => intro t k _ _ _ h; omega
  | succ f ih =>
    intro t k ht hb hk hf
    cases t with
    | empty => rw [delete_empty]; exact Upd.of_absent ht hb (getN_empty _)
    | value w => exact ht.elim
    | full cs =>
      obtain ⟨i, r, rfl⟩ := tk_exists_cons hk
      obtain ⟨f, rfl⟩ := exists_succ_of_lt (Nat.lt_of_succ_lt_succ hf)
      obtain ⟨hwc, hbc, hg⟩ := full_set ht hb.2 hk (x := none) (c' := delete (cs.get i) r (f + 1))
        (fun _ hs => by rw [delete_slotVal hs]; exact ⟨trivial, rfl⟩)
        (fun hr hwc => ih _ r hwc (brc_get cs i hb.2) hr (by simpa using hf))
      have hlen := wfc_len hwc
      rw [delete_full_eq]
      split
      · rename_i pos hpos
        obtain ⟨hne, hoth⟩ := single_of_nonEmpty hpos
        have hs := wfc_slot hwc pos
        have hw := wf_mkShort_slot (by have := get_nonempty_lt hne; omega) hs hne
        rw [collapse_eq hs]
        refine ⟨hw, br_mkShort.mpr (brc_get _ pos hbc), fun k' hk' => ?_⟩
        rw [← hg k' hk', getN_single (wfv_of_slot hs) hw hoth hk']
      · rename_i hnot
        refine ⟨hwc, ⟨?_, hbc⟩, hg⟩
        -- one of the two children the node had is not the one the key leads to
        obtain ⟨a, b, hab, ha, hb'⟩ := hb.1
        obtain ⟨j, hji, hj⟩ : ∃ j, i ≠ j ∧ (cs.get j).isEmpty = false := by
          by_cases hai : i = a
          · exact ⟨b, by omega, hb'⟩
          · exact ⟨a, hai, ha⟩
        have hm := (mem_nonEmpty (cs.set i (delete (cs.get i) r (f + 1))) 0 j).mpr
          ⟨j, by omega, by rw [Children.get_set_other hji]; exact hj⟩
        match hl : (cs.set i (delete (cs.get i) r (f + 1))).nonEmpty 0 with
        | [] => rw [hl] at hm; cases hm
        | [pos] => exact absurd hl (hnot pos)
        | x :: y :: l => exact two_of_nonEmpty _ 0 x y l hl
    | short key c =>
      rcases key_split k key with ⟨rest, rfl⟩ | ⟨b, key1, rfl⟩ | ⟨p, a, k1, b, key1, hab, rfl, rfl⟩
      · rw [delete_short_prefix (wf_short_key_ne ht)]
        rcases wf_short ht with ⟨hkey, w, rfl⟩ | ⟨hkey, cs, rfl, hc⟩
        · obtain rfl := tk_append_nil hkey hk
          rw [if_pos rfl, List.append_nil]
          exact Upd.leaf hkey w wf_empty trivial (fun k' _ => by rw [getN_empty]; split <;> rfl)
        · have hr := tk_rest hk hkey.2
          have hfr := rest_length_lt hkey.1 hf
          obtain ⟨f, rfl⟩ := exists_succ_of_lt hfr
          rw [if_neg (tk_ne_nil hr)]
          have u := ih (.full cs) rest hc hb hr hfr
          obtain ⟨i, r, rfl⟩ := tk_exists_cons hr
          have := u.under hkey.2 hc rfl (delete_full_nonempty cs i r f)
          rwa [mkShort_full hkey.1] at this
      · exact (no_strict_prefix hk ht).elim
      · rw [delete_short_split _ _ _ _ _ _ _ hab]
        refine Upd.of_absent ht hb ?_
        rw [getN_short ht, if_neg]
        rw [List.prefix_append_right_inj, List.cons_prefix_cons]
        exact fun h => hab h.1.symm

theorem update_ok {t : Node} (hw : WF t) (hb : Br t) (key value : Bytes) :
    Upd t (keybytesToHex key) (if value.isEmpty then none else some value) (update t key value) := by
  unfold update
  split
  · exact delete_ok _ t _ hw hb (tk_keybytesToHex key) (by omega)
  · exact insert_ok _ t _ value hw hb (tk_keybytesToHex key) (by omega)

end AnnVerif.Trie
