/-
  `BlockID.Key()`: repaired, the key is three self-delimiting encodings in a row, peeled off one by one with the
  `_append_inj` lemmas of WirePrim, hence injective on wire-sized ids; as found the hash is not
  length-prefixed and two ids share a key.
-/
import AnnVerif.Lemmas.WirePrim
import AnnVerif.Lemmas.VoteSetInv
namespace AnnVerif.VoteSet
open AnnVerif

/-- `Model/VoteSet` and `Model/WirePrim` each model go-wire's `WriteVarint`; the codec facts are stated for the latter -/
theorem wireVarint_eq_writeVarint (i : Int) : wireVarint i = WirePrim.writeVarint i := by
  unfold wireVarint WirePrim.writeVarint
  by_cases h : i < 0
  · rw [if_pos h, if_pos h, show (-i).toNat = i.natAbs by omega]
  · rw [if_neg h, if_neg h]
    rfl

/-- a BlockID is wire-sized: what any decoded or locally built BlockID satisfies -/
def BlockID.Small (b : BlockID) : Prop :=
  b.hash.length < 2 ^ 64 ∧ b.total.natAbs < 2 ^ 64 ∧ b.phash.length < 2 ^ 64

/-- C15 (repaired): `BlockID.Key()` is injective -/
theorem key_injective (b b' : BlockID) (hb : b.Small) (hb' : b'.Small)
    (h : b.key repaired = b'.key repaired) : b = b' := by
  unfold BlockID.key at h
  simp only [repaired, if_true, wireVarint_eq_writeVarint] at h
  rw [List.append_assoc, List.append_assoc] at h
  obtain ⟨h1, h⟩ := wireByteSlice_append_inj _ _ _ _ hb.1 hb'.1 h
  obtain ⟨h2, h⟩ := WirePrim.writeVarint_append_inj _ _ _ _ hb.2.1 hb'.2.1 h
  have h3 := wireByteSlice_inj _ _ hb.2.2 hb'.2.2 h
  cases b
  cases b'
  exact congr (congr (congrArg BlockID.mk h1) h2) h3

/-- What a reported majority for `b` rests on, with the key undone by `key_injective`: the tally entry of `b`
    reaches the quorum, and each vote in it is a `Good` vote for `b` whose primary slot also holds a vote for `b`.
    Soundness (C15.2) and agreement use the `Good` votes for `b`, `commit_verifies` the primary slots. -/
theorem Inv.maj_entry {hist : Hist} {vs : VoteSet} {b : BlockID} (hinv : Inv repaired hist vs) (hsmall : ∀ x ∈ hist, x.1.bid.Small)
    (hb : b.Small) (hmaj : vs.maj23 = some b) :
    ∃ bvv : List (Option Vote), bvv.length = vs.vals.length ∧
      quorum (total vs.vals) ≤ tally (powers vs.vals) bvv ∧
      ∀ (i : Nat) (v : Vote), bvv[i]? = some (some v) → Good hist vs i v ∧ v.bid = b ∧
        ∃ v', vs.votes[i]? = some (some v') ∧ v'.bid = b := by
  obtain ⟨bv, hl, hq, hall⟩ := hinv.majSound b hmaj
  refine ⟨bv.votes, hinv.entryLen _ _ hl, hinv.entrySum _ _ hl ▸ hq, fun i v hiv => ?_⟩
  obtain ⟨g, hk, _⟩ := hinv.entrySlot _ _ hl i v hiv
  obtain ⟨v', hv', hk'⟩ := hall i v hiv
  exact ⟨g, key_injective _ _ (hsmall _ g.offered) hb hk, v', hv',
    key_injective _ _ (hsmall _ (hinv.slot i v' hv').offered) hb hk'⟩

/-- C15 AS FOUND: `Key()` is NOT injective — {Hash: nil, Parts{1,[00]}} and {Hash: [01 01], Parts{1,nil}}. -/
theorem key_not_injective_asFound :
    (⟨[], 1, [0]⟩ : BlockID) ≠ ⟨[1, 1], 1, []⟩ ∧
    (⟨[], 1, [0]⟩ : BlockID).key asFound = (⟨[1, 1], 1, []⟩ : BlockID).key asFound := by
  constructor
  · decide
  · decide

end AnnVerif.VoteSet
