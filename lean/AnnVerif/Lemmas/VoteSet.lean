/-
  Slot lists without looking at the votes in them: `tally` (the power of the occupied slots) depends only on
  WHICH slots are occupied (`occ`) and grows with them while no power is negative (`tally_mono`), so `set`,
  `overlay` and the blanking of Lemmas/VoteCommit.lean are all compared through `occ`. The Go map
  `votesByBlock` is `lookup`/`insert`: one equation, and one rule for a property of all entries.
-/
import AnnVerif.Model.VoteSet
import AnnVerif.Lemmas.Logic
namespace AnnVerif.VoteSet

def powers (vals : List Validator) : List Int := vals.map (·.power)

/-- voting power of the occupied slots (each position counted once by construction) -/
def tally : List Int → List (Option Vote) → Int
  | p :: ps, some _ :: ss => p + tally ps ss
  | _ :: ps, none :: ss => tally ps ss
  | _, _ => 0

def occ (l : List (Option Vote)) (i : Nat) : Prop := ((l[i]?).join).isSome = true

theorem occ_iff {l : List (Option Vote)} {i : Nat} : occ l i ↔ ∃ v, l[i]? = some (some v) := by
  simp [occ, Option.isSome_iff_exists, Option.join_eq_some_iff]

theorem occ_of_get {l : List (Option Vote)} {i : Nat} {v : Vote} (h : l[i]? = some (some v)) :
    occ l i := occ_iff.mpr ⟨v, h⟩

theorem not_occ_of_get {l : List (Option Vote)} {i : Nat} (h : l[i]? = some none) : ¬ occ l i := by
  simp [occ, h]

theorem getElem?_of_not_occ {l : List (Option Vote)} {i : Nat} (hi : i < l.length) (h : ¬ occ l i) :
    l[i]? = some none := by
  rw [List.getElem?_eq_getElem hi]
  cases hx : l[i] with
  | none => rfl
  | some w => exact absurd (occ_of_get (by rw [List.getElem?_eq_getElem hi, hx])) h

theorem occ_cons_succ (x : Option Vote) (xs : List (Option Vote)) (i : Nat) :
    occ (x :: xs) (i + 1) ↔ occ xs i := by
  simp [occ]

theorem not_occ_nil (i : Nat) : ¬ occ [] i := by
  simp [occ]

theorem occ_set (l : List (Option Vote)) (i j : Nat) (v : Vote) (h : occ l j) :
    occ (l.set i (some v)) j := by
  obtain ⟨w, hw⟩ := occ_iff.mp h
  rw [occ_iff, List.getElem?_set', hw]
  split
  · exact ⟨v, rfl⟩
  · exact ⟨w, rfl⟩

theorem tally_nil (ps : List Int) : tally ps [] = 0 := by
  cases ps <;> rfl

theorem tally_replicate_none (ps : List Int) (n : Nat) : tally ps (List.replicate n none) = 0 := by
  induction n generalizing ps with
  | zero => exact tally_nil ps
  | succ n ih => cases ps <;> simp [List.replicate_succ, tally, ih]

theorem tally_set (ps : List Int) (ss : List (Option Vote)) (i : Nat) (v : Vote) (p : Int)
    (o : Option Vote) (h : ss[i]? = some o) (hp : ps[i]? = some p) :
    tally ps (ss.set i (some v)) = tally ps ss + (if o.isSome then 0 else p) := by
  induction ss generalizing ps i with
  | nil => simp at h
  | cons s t ih =>
    cases ps with
    | nil => simp at hp
    | cons q qs =>
      cases i with
      | zero =>
        obtain rfl : s = o := Option.some.inj (List.getElem?_cons_zero.symm.trans h)
        obtain rfl : q = p := Option.some.inj (List.getElem?_cons_zero.symm.trans hp)
        cases s
        · simp only [List.set_cons_zero, tally, Option.isSome_none, Bool.false_eq_true, if_false]; omega
        · simp only [List.set_cons_zero, tally, Option.isSome_some, if_true]; omega
      | succ j =>
        have := ih qs j (List.getElem?_cons_succ.symm.trans h) (List.getElem?_cons_succ.symm.trans hp)
        cases s <;> simp only [List.set_cons_succ, tally, this] <;> omega

theorem tally_nonneg (ps : List Int) (ss : List (Option Vote)) (hp : ∀ p ∈ ps, 0 ≤ p) :
    0 ≤ tally ps ss := by
  fun_induction tally ps ss with
  | case1 p ps _ ss ih =>
    obtain ⟨hq, hqs⟩ := List.forall_mem_cons.mp hp
    have := ih hqs
    omega
  | case2 p ps ss ih => exact ih (List.forall_mem_cons.mp hp).2
  | case3 => exact Int.le_refl 0

theorem tally_le_sum (ps : List Int) (ss : List (Option Vote)) (hp : ∀ p ∈ ps, 0 ≤ p) :
    tally ps ss ≤ ps.sum := by
  fun_induction tally ps ss with
  | case1 p ps _ ss ih =>
    have := ih (List.forall_mem_cons.mp hp).2
    rw [List.sum_cons]
    omega
  | case2 p ps ss ih =>
    obtain ⟨hq, hqs⟩ := List.forall_mem_cons.mp hp
    have := ih hqs
    rw [List.sum_cons]
    omega
  | case3 => exact sum_nonneg _ hp

theorem tally_mono (ps : List Int) (a b : List (Option Vote)) (hp : ∀ p ∈ ps, 0 ≤ p)
    (h : ∀ i, occ a i → occ b i) : tally ps a ≤ tally ps b := by
  fun_induction tally ps a generalizing b with
  | case3 => exact tally_nonneg _ b hp
  | case1 q qs v xs ih =>
    obtain ⟨hq, hqs⟩ := List.forall_mem_cons.mp hp
    cases b with
    | nil => exact absurd (h 0 rfl) (not_occ_nil 0)
    | cons y ys =>
      have := ih ys hqs fun i hi => (occ_cons_succ y ys i).mp (h (i + 1) ((occ_cons_succ _ xs i).mpr hi))
      cases y with
      | none => exact absurd (h 0 rfl) (not_occ_of_get rfl)
      | some w => exact Int.add_le_add_left this q
  | case2 q qs xs ih =>
    obtain ⟨hq, hqs⟩ := List.forall_mem_cons.mp hp
    cases b with
    | nil =>
      have := ih [] hqs fun i hi => absurd (h (i + 1) ((occ_cons_succ _ xs i).mpr hi)) (not_occ_nil _)
      rwa [tally_nil] at this ⊢
    | cons y ys =>
      have := ih ys hqs fun i hi => (occ_cons_succ y ys i).mp (h (i + 1) ((occ_cons_succ _ xs i).mpr hi))
      cases y with
      | none => exact this
      | some w => exact Int.le_trans this (Int.le_add_of_nonneg_left hq)

theorem tally_congr (ps : List Int) (a b : List (Option Vote)) (hp : ∀ p ∈ ps, 0 ≤ p)
    (h : ∀ i, occ a i ↔ occ b i) : tally ps a = tally ps b :=
  Int.le_antisymm (tally_mono ps a b hp fun i => (h i).mp) (tally_mono ps b a hp fun i => (h i).mpr)

theorem overlay_length (d s : List (Option Vote)) : (overlay d s).length = d.length := by
  induction d generalizing s with
  | nil => cases s <;> rfl
  | cons x xs ih =>
    cases s with
    | nil => rfl
    | cons y ys => exact congrArg Nat.succ (ih ys)

theorem overlay_get (d s : List (Option Vote)) (i : Nat) (hl : s.length = d.length) :
    (overlay d s)[i]? = (match (s[i]?).join with | some v => some (some v) | none => d[i]?) := by
  induction d generalizing s i with
  | nil =>
    cases List.eq_nil_of_length_eq_zero hl
    rfl
  | cons x xs ih =>
    cases s with
    | nil => simp at hl
    | cons y ys =>
      cases i with
      | zero => cases y <;> rfl
      | succ j => exact ih ys j (Nat.succ.inj hl)

theorem occ_overlay (d s : List (Option Vote)) (j : Nat) (hl : s.length = d.length) :
    occ (overlay d s) j ↔ occ s j ∨ occ d j := by
  unfold occ
  rw [overlay_get d s j hl]
  cases (s[j]?).join <;> simp

theorem lookup_insert (m : List (Bytes × BlockVotes)) (k k' : Bytes) (v : BlockVotes) :
    lookup (insert m k v) k' = if k' = k then some v else lookup m k' := by
  induction m with
  | nil =>
    by_cases h : k = k'
    · simp [insert, lookup, h]
    · simp [insert, lookup, h, Ne.symm h]
  | cons x t ih =>
    obtain ⟨k'', v''⟩ := x
    by_cases h : k'' = k
    · subst h
      by_cases h2 : k'' = k'
      · simp [insert, lookup, h2]
      · simp [insert, lookup, h2, Ne.symm h2]
    · by_cases h2 : k'' = k'
      · subst h2; simp [insert, lookup, h]
      · simp [insert, lookup, h, h2, ih]

theorem lookup_insert_self (m : List (Bytes × BlockVotes)) (k : Bytes) (v : BlockVotes) :
    lookup (insert m k v) k = some v := by
  rw [lookup_insert, if_pos rfl]

theorem lookup_insert_ne (m : List (Bytes × BlockVotes)) (k k' : Bytes) (v : BlockVotes)
    (hne : k' ≠ k) : lookup (insert m k v) k' = lookup m k' := by
  rw [lookup_insert, if_neg hne]

theorem lookup_insert_forall {P : Bytes → BlockVotes → Prop} {m : List (Bytes × BlockVotes)}
    {key : Bytes} {bv : BlockVotes} (hold : ∀ k v, lookup m k = some v → P k v) (hnew : P key bv) :
    ∀ k v, lookup (insert m key bv) k = some v → P k v := by
  intro k v h
  rw [lookup_insert] at h
  by_cases hk : k = key
  · rw [if_pos hk] at h; cases h; exact hk ▸ hnew
  · rw [if_neg hk] at h; exact hold k v h

theorem getElem?_powers (vals : List Validator) (i : Nat) (val : Validator)
    (h : vals[i]? = some val) : (powers vals)[i]? = some val.power := by
  simp [powers, h]

theorem powers_nonneg (vals : List Validator) (hpos : ∀ val ∈ vals, 0 ≤ val.power) :
    ∀ p ∈ powers vals, 0 ≤ p := by
  intro p hp
  obtain ⟨val, hval, rfl⟩ := List.mem_map.mp hp
  exact hpos val hval

theorem total_eq (vals : List Validator) : total vals = (powers vals).sum := rfl

theorem total_nonneg (vals : List Validator) (hpos : ∀ val ∈ vals, 0 ≤ val.power) :
    0 ≤ total vals :=
  total_eq vals ▸ sum_nonneg (powers vals) (powers_nonneg vals hpos)

theorem quorum_gt (t : Int) : 3 * quorum t > 2 * t := by
  unfold quorum; omega

theorem quorum_pos (vals : List Validator) (hpos : ∀ val ∈ vals, 0 ≤ val.power) :
    0 < quorum (total vals) := by
  have := total_nonneg vals hpos
  unfold quorum; omega

end AnnVerif.VoteSet
