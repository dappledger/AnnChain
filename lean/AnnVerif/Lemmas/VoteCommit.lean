/-
  `VerifyCommit` (Model/VoteSet.lean): the power `tallyB` of the slots voting for one block; what the
  loop does (`tallyCommit_eq_ok`); when a commit is accepted (`verifyCommit_some`) and what acceptance
  means (`CommitJustifies`); the commit made from a reported majority is accepted (`Inv.commit_verifies`).
-/
import AnnVerif.Lemmas.VoteKey
namespace AnnVerif.VoteSet

/-- power of the positions whose precommit is for exactly `b` -/
def tallyB (b : BlockID) : List Int → List (Option Vote) → Int
  | p :: ps, some v :: ss => (if b = v.bid then p else 0) + tallyB b ps ss
  | _ :: ps, none :: ss => tallyB b ps ss
  | _, _ => 0

/-- the slot list with every vote that is not for `b` blanked out: `tallyB b` is its `tally`, so
    what is known of `tally` (monotone in the occupied slots) carries over to `tallyB` -/
def forBlock (b : BlockID) (ss : List (Option Vote)) : List (Option Vote) :=
  ss.map fun o => o.filter fun v => b = v.bid

theorem tallyB_eq_tally (b : BlockID) (ps : List Int) (ss : List (Option Vote)) :
    tallyB b ps ss = tally ps (forBlock b ss) := by
  induction ss generalizing ps with
  | nil => cases ps <;> rfl
  | cons s t ih =>
    cases ps with
    | nil => rfl
    | cons q qs =>
      cases s with
      | none => exact ih qs
      | some v =>
        have e : forBlock b (some v :: t) = (if b = v.bid then some v else none) :: forBlock b t := by
          simp [forBlock, Option.filter]
        rw [e]
        by_cases hb : b = v.bid
        · rw [if_pos hb]; simp only [tallyB, tally, if_pos hb, ih qs]
        · rw [if_neg hb]; simp only [tallyB, tally, if_neg hb, ih qs, Int.zero_add]

theorem occ_forBlock {b : BlockID} {ss : List (Option Vote)} {j : Nat} :
    occ (forBlock b ss) j ↔ ∃ v, ss[j]? = some (some v) ∧ v.bid = b := by
  rw [occ_iff]
  simp only [forBlock, List.getElem?_map]
  cases ss[j]? with
  | none => simp
  | some o =>
    cases o with
    | none => simp
    | some v => by_cases hb : b = v.bid <;> simp [Option.filter, hb, eq_comm]

theorem tally_le_tallyB (b : BlockID) (ps : List Int) (hp : ∀ p ∈ ps, 0 ≤ p) (slots a : List (Option Vote))
    (h : ∀ j, occ a j → ∃ v, slots[j]? = some (some v) ∧ v.bid = b) : tally ps a ≤ tallyB b ps slots := by
  rw [tallyB_eq_tally]
  exact tally_mono ps _ _ hp fun j hj => occ_forBlock.mpr (h j hj)

theorem tallyB_le_tally (b : BlockID) (ps : List Int) (hp : ∀ p ∈ ps, 0 ≤ p) (slots a : List (Option Vote))
    (h : ∀ (j : Nat) (v : Vote), slots[j]? = some (some v) → v.bid = b → occ a j) :
    tallyB b ps slots ≤ tally ps a := by
  rw [tallyB_eq_tally]
  exact tally_mono ps _ _ hp fun j hj =>
    let ⟨v, hv, hb⟩ := occ_forBlock.mp hj
    h j v hv hb

/-- more than 2/3 of a total that is not negative is more than nothing: some slot votes for `b` -/
theorem tallyB_two_thirds_exists {vals : List Validator} (hpos : ∀ val ∈ vals, 0 ≤ val.power) {b : BlockID}
    {slots : List (Option Vote)} (h : tallyB b (powers vals) slots > total vals * 2 / 3) :
    ∃ (j : Nat) (v : Vote), slots[j]? = some (some v) ∧ v.bid = b :=
  Classical.byContradiction fun hno => by
    have h0 := tallyB_le_tally b _ (powers_nonneg vals hpos) slots [] fun j v hv hb => absurd ⟨j, v, hv, hb⟩ hno
    rw [tally_nil] at h0
    have := total_nonneg vals hpos
    omega

/-- the checks of the loop body on the precommit `p` found at index `i`, in the slot of validator `val`
    (the last one only with the slot check) -/
def PrecommitOk (slot : Bool) (sigok : Nat → Vote → Bool) (H R : Int) (i : Nat) (val : Validator)
    (p : Vote) : Prop :=
  p.height = H ∧ p.round = R ∧ p.type = 2 ∧ sigok i p = true ∧
    (slot = true → p.idx = (i : Int) ∧ p.addr = val.addr)

/-- every non-nil slot passes the checks of the loop, started at index `i0` with the validators `vals`
    (`j + i0` and not `i0 + j`: for the whole commit, `i0 = 0`, it is `j` by computation) -/
def SlotsPass (slot : Bool) (sigok : Nat → Vote → Bool) (H R : Int) (vals : List Validator) (i0 : Nat)
    (slots : List (Option Vote)) : Prop :=
  ∀ (j : Nat) (v : Vote), slots[j]? = some (some v) →
    ∃ val, vals[j]? = some val ∧ PrecommitOk slot sigok H R (j + i0) val v

section
variable {slot : Bool} {sigok : Nat → Vote → Bool} {b : BlockID} {H R : Int}

theorem slotsPass_cons {val : Validator} {vt : List Validator} {i0 : Nat} {s : Option Vote}
    {rest : List (Option Vote)} :
    SlotsPass slot sigok H R (val :: vt) i0 (s :: rest) ↔
      (∀ p, s = some p → PrecommitOk slot sigok H R i0 val p) ∧
      SlotsPass slot sigok H R vt (i0 + 1) rest := by
  constructor
  · intro h
    refine ⟨fun p hp => ?_, fun j v hj => ?_⟩
    · obtain ⟨_, e, hok⟩ := h 0 p (congrArg some hp)
      cases e
      exact Nat.zero_add i0 ▸ hok
    · exact Nat.add_right_comm j 1 i0 ▸ h (j + 1) v hj
  · intro ⟨h0, ht⟩ j v hj
    cases j with
    | zero => exact ⟨val, rfl, (Nat.zero_add i0).symm ▸ h0 v (Option.some.inj hj)⟩
    | succ j => exact Nat.add_right_comm j 1 i0 ▸ ht j v hj

theorem tallyCommit_cons_some {i : Nat} {val : Validator} {vt : List Validator} {p : Vote}
    {rest : List (Option Vote)} {acc t : Int} :
    tallyCommit slot sigok b H R i (val :: vt) (some p :: rest) acc = .ok t ↔
      PrecommitOk slot sigok H R i val p ∧
      tallyCommit slot sigok b H R (i + 1) vt rest (acc + if b = p.bid then val.power else 0) = .ok t := by
  -- the guards by `guard_eq_iff`; the names after `not_false_eq_true` put the negated conditions into the form of
  -- `PrecommitOk`
  simp only [tallyCommit, guard_eq_iff, PrecommitOk, ne_eq, reduceCtorEq, not_false_eq_true, Classical.not_not,
    Bool.not_eq_true', Bool.not_eq_false, not_and, not_or, and_assoc]
  by_cases hb : b = p.bid
  · simp only [if_pos hb]
  · simp only [if_neg hb, Int.add_zero]

theorem tallyCommit_eq_ok {slots : List (Option Vote)} {vals : List Validator} {i0 : Nat} {acc t : Int}
    (hl : vals.length = slots.length) :
    tallyCommit slot sigok b H R i0 vals slots acc = .ok t ↔
      SlotsPass slot sigok H R vals i0 slots ∧ t = acc + tallyB b (powers vals) slots := by
  induction slots generalizing vals i0 acc with
  | nil =>
    cases List.eq_nil_of_length_eq_zero hl
    exact ⟨fun h => ⟨fun j v hj => (nomatch hj), ((Int.add_zero acc).trans (Except.ok.inj h)).symm⟩,
      fun h => h.2 ▸ congrArg Except.ok (Int.add_zero acc).symm⟩
  | cons s rest ih =>
    cases vals with
    | nil => cases hl
    | cons val vt =>
      rw [slotsPass_cons]
      cases s with
      | none =>
        rw [tallyCommit, ih (Nat.succ.inj hl)]
        exact ⟨fun h => ⟨⟨nofun, h.1⟩, h.2⟩, fun h => ⟨h.1.2, h.2⟩⟩
      | some p =>
        rw [tallyCommit_cons_some, ih (Nat.succ.inj hl), Int.add_assoc]
        exact ⟨fun h => ⟨⟨fun _ e => Option.some.inj e ▸ h.1, h.2.1⟩, h.2.2⟩,
          fun h => ⟨h.1.1 p rfl, h.1.2, h.2⟩⟩

/-- no exit of the loop reports `.ok` as its error, so that `VerifyCommit` passes only on a tally -/
theorem tallyCommit_ne_ok (slots : List (Option Vote)) (vals : List Validator) (i0 : Nat) (acc : Int) :
    tallyCommit slot sigok b H R i0 vals slots acc ≠ .error .ok := by
  fun_induction tallyCommit slot sigok b H R i0 vals slots acc
  all_goals first | assumption | exact nofun

end

theorem firstPrecommit_some (slots : List (Option Vote)) (f : Vote)
    (h : firstPrecommit slots = some f) : ∃ j : Nat, slots[j]? = some (some f) := by
  induction slots with
  | nil => cases h
  | cons s t ih =>
    cases s with
    | some v => cases h; exact ⟨0, rfl⟩
    | none =>
      obtain ⟨j, hj⟩ := ih h
      exact ⟨j + 1, hj⟩

theorem firstPrecommit_none (l : List (Option Vote)) (h : firstPrecommit l = none) (j : Nat) (v : Vote) :
    l[j]? ≠ some (some v) := by
  induction l generalizing j with
  | nil => simp
  | cons s t ih =>
    cases s with
    | some w => simp [firstPrecommit] at h
    | none =>
      cases j with
      | zero => simp
      | succ j => simpa using ih h j

section
variable {cfg : Cfg} {sigok : Nat → Vote → Bool} {vals : List Validator} {b : BlockID} {height : Int}
  {c : Commit}

/-- a commit without any precommit passes only if nothing exceeds 2/3 of the total power: never, while
    no power is negative -/
theorem verifyCommit_none (hpos : ∀ val ∈ vals, 0 ≤ val.power) (hf : firstPrecommit c.precommits = none) :
    verifyCommit cfg sigok vals b height c ≠ .ok := by
  have hno : ¬ 0 > total vals * 2 / 3 := by have := total_nonneg vals hpos; omega
  unfold verifyCommit
  rw [hf]
  cases c.precommits <;>
    simp only [guard_eq_iff, ne_eq, reduceCtorEq, not_false_eq_true, if_neg hno, and_false]

theorem verifyCommit_some {f : Vote} (hf : firstPrecommit c.precommits = some f) :
    verifyCommit cfg sigok vals b height c = .ok ↔
      vals.length = c.precommits.length ∧ height = f.height ∧
      SlotsPass cfg.slotCheck sigok height f.round vals 0 c.precommits ∧
      tallyB b (powers vals) c.precommits > total vals * 2 / 3 := by
  unfold verifyCommit
  simp only [guard_eq_iff, ne_eq, reduceCtorEq, not_false_eq_true, Classical.not_not]
  refine and_congr_right fun hl => ?_
  cases hc : c.precommits with
  | nil => rw [hc] at hf; cases hf
  | cons x xs =>
    rw [hc] at hf hl
    rw [hf]
    simp only [guard_eq_iff, ne_eq, reduceCtorEq, not_false_eq_true, Classical.not_not]
    refine and_congr_right fun _ => ?_
    cases ht : tallyCommit cfg.slotCheck sigok b height f.round 0 vals (x :: xs) 0 with
    | error e =>
      refine ⟨fun he => ?_, fun h => ?_⟩
      · cases (he : e = .ok)
        exact absurd ht (tallyCommit_ne_ok _ _ _ _)
      · cases ht.symm.trans ((tallyCommit_eq_ok hl).mpr ⟨h.1, rfl⟩)
    | ok t =>
      obtain ⟨hp, rfl⟩ := (tallyCommit_eq_ok hl).mp ht
      simp only [Int.zero_add, ite_eq_left_iff, reduceCtorEq, imp_false, Classical.not_not, hp, true_and]

end

/-- what an accepted commit means: one round; every non-nil slot is a precommit of `height`
    and of that round whose signature verifies under the key at its POSITION; the slots voting for
    exactly `b` hold more than 2/3 of the total power -/
def CommitJustifies (sigok : Nat → Vote → Bool) (vals : List Validator) (b : BlockID) (height : Int)
    (c : Commit) : Prop :=
  c.precommits.length = vals.length ∧
  ∃ R : Int,
    (∀ (j : Nat) (v : Vote), c.precommits[j]? = some (some v) →
      v.height = height ∧ v.round = R ∧ v.type = 2 ∧ sigok j v = true) ∧
    tallyB b (powers vals) c.precommits > total vals * 2 / 3

theorem verifyCommit_sound (cfg : Cfg) (sigok : Nat → Vote → Bool) (vals : List Validator) (b : BlockID)
    (height : Int) (c : Commit) (hpos : ∀ val ∈ vals, 0 ≤ val.power)
    (h : verifyCommit cfg sigok vals b height c = .ok) :
    CommitJustifies sigok vals b height c := by
  cases hf : firstPrecommit c.precommits with
  | none => exact absurd h (verifyCommit_none hpos hf)
  | some f =>
    obtain ⟨hl, _, hp, hgt⟩ := (verifyCommit_some hf).mp h
    refine ⟨hl.symm, f.round, fun j v hj => ?_, hgt⟩
    obtain ⟨_, _, a1, a2, a3, a4, _⟩ := hp j v hj
    exact ⟨a1, a2, a3, a4⟩

theorem Inv.commit_verifies {hist : Hist} {vs : VoteSet} {b : BlockID} (hinv : Inv repaired hist vs)
    (hpos : ∀ val ∈ vs.vals, 0 ≤ val.power)
    (hsmall : ∀ x ∈ hist, x.1.bid.Small) (ht : vs.type = 2) (sigokPos : Nat → Vote → Bool)
    (hsig : ∀ x ∈ hist, x.2 = true → sigokPos x.1.idx.toNat x.1 = true)
    (hb : b.Small) (hmaj : vs.maj23 = some b) :
    verifyCommit repaired sigokPos vs.vals b vs.height ⟨b, vs.votes⟩ = .ok := by
  obtain ⟨bvv, hbvlen, hq, hall⟩ := hinv.maj_entry hsmall hb hmaj
  have hpp := powers_nonneg vs.vals hpos
  have hslots : SlotsPass repaired.slotCheck sigokPos vs.height vs.round vs.vals 0 vs.votes := by
    intro j v hjv
    have g := hinv.slot j v hjv
    obtain ⟨val, hval, ha⟩ := g.addr
    have e : v.idx.toNat = j := congrArg Int.toNat g.idx
    exact ⟨val, hval, g.h, g.r, g.t.trans ht, e ▸ hsig _ g.offered rfl, fun _ => ⟨g.idx, ha.symm⟩⟩
  -- the votes for `b` in the primary slots weigh at least as much as the majority's tally
  have hge : quorum (total vs.vals) ≤ tallyB b (powers vs.vals) vs.votes :=
    Int.le_trans hq (tally_le_tallyB b _ hpp vs.votes bvv fun j hj =>
      let ⟨w, hw⟩ := occ_iff.mp hj
      (hall j w hw).2.2)
  have hbig : tallyB b (powers vs.vals) vs.votes > total vs.vals * 2 / 3 :=
    Int.lt_of_lt_of_le (Int.lt_succ _) hge
  obtain ⟨j, v, hj, _⟩ := tallyB_two_thirds_exists hpos hbig
  cases hfp : firstPrecommit vs.votes with
  | none => exact absurd hj (firstPrecommit_none _ hfp j v)
  | some f =>
    obtain ⟨j', hj'⟩ := firstPrecommit_some _ _ hfp
    obtain ⟨_, _, hfh, hfr, _⟩ := hslots j' f hj'
    exact (verifyCommit_some (c := ⟨b, vs.votes⟩) hfp).mpr ⟨hinv.len.symm, hfh.symm, hfr ▸ hslots, hbig⟩

end AnnVerif.VoteSet
