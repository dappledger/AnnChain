/-
  The pool's operations as compositions of three elementary updates: one account's waiting queue
  is replaced, one account's pending queue is replaced, the lookup cache changes. Each operation is
  taken apart here once; a property of pools is carried through `submit`, `promote`, `demoteOne` and
  `commit` by carrying it through these updates.
-/
import AnnVerif.Lemmas.Pool
namespace AnnVerif.Pool

theorem getLast_mem (q : Queue) (mx : Tx) (h : q.getLast? = some mx) : mx ∈ q := List.mem_of_getLast? h

/-- The last hypothesis of `insert` is what keeps the bound: the highest nonce made room for `t`, or
    the pool was not full. -/
theorem addWaiting_cases {I : Pool → Prop} (cfg : Cfg) (p : Pool) (t : Tx)
    (part : ∀ q all', q.Sublist (p.waiting t.sender) → I { p with waiting := mSet p.waiting t.sender q, all := all' })
    (insert : ∀ w all', w.Sublist (p.waiting t.sender) → qHas w t.nonce = false →
      (w.length < (p.waiting t.sender).length ∨ mCount p.waiting < p.waitingLimit) →
      I { p with waiting := mSet p.waiting t.sender (qInsert w t), all := all' }) :
    I (addWaiting cfg p t).1 := by
  have same : I p := by
    have := part _ p.all (List.Sublist.refl _)
    rwa [mSet_self] at this
  -- a motive that is a variable lets `iteInduction` step through the nested tests
  suffices h : ∀ J : Pool × SubmitRes → Prop, (∀ q r, I q → J (q, r)) → J (addWaiting cfg p t) from
    h (fun r => I r.1) fun _ _ hq => hq
  intro J hJ
  unfold addWaiting
  dsimp only [mGet]
  refine iteInduction (fun _ => ?_) fun hfull => ?_
  · cases hl : (p.waiting t.sender).getLast? with
    | none => exact hJ _ _ same
    | some mx =>
      refine iteInduction (fun _ => hJ _ _ same) fun _ => ?_
      refine iteInduction (fun _ => hJ _ _ ?_) fun hh => hJ _ _ ?_
      · split
        · exact same
        · exact part _ _ (List.dropLast_sublist _)
      · refine insert _ _ (List.dropLast_sublist _) (by simpa using hh) (Or.inl ?_)
        have := List.length_pos_of_mem (getLast_mem _ mx hl)
        rw [List.length_dropLast]
        omega
  · refine iteInduction (fun _ => hJ _ _ same) fun hh => hJ _ _ ?_
    exact insert _ _ (List.Sublist.refl _) (by simpa using hh) (Or.inr (by omega))

/-- the body of the loop that ends `demoteOne`: a postponed transaction goes back through `addWaiting` -/
def reAdd (cfg : Cfg) (acc : Pool) (t : Tx) : Pool :=
  match addWaiting cfg acc t with
  | (acc', .ok) => acc'
  | (acc', _) => { acc' with all := forget acc'.all [t] }

theorem reAdd_preserves {I : Pool → Prop} {cfg : Cfg} {p : Pool} {t : Tx}
    (hall : ∀ q all', I q → I { q with all := all' }) (h : I (addWaiting cfg p t).1) : I (reAdd cfg p t) := by
  unfold reAdd
  generalize addWaiting cfg p t = r at h
  obtain ⟨q, o⟩ := r
  cases o
  · exact h
  all_goals exact hall _ _ h

theorem demoteOne_eq {cfg : Cfg} {p : Pool} {a : Nat} {q s : Queue × Queue}
    (hq : qForward (p.pending a) (nonceOf p a) = q) (hs : gapSplit cfg q.1 (nonceOf p a) = s) :
    demoteOne cfg p a =
      s.2.foldl (reAdd cfg) { p with pending := mSet p.pending a s.1, all := forget p.all q.2 } := by
  subst hq hs
  unfold demoteOne
  dsimp only
  split
  · rename_i he
    rw [List.isEmpty_iff] at he
    have hall := gapSplit_append cfg (qForward (p.pending a) (nonceOf p a)).1 (nonceOf p a)
    rw [he, List.append_nil] at hall
    rw [he, hall]
    rfl
  · rw [mSet_mSet]
    rfl

theorem demote_parts (cfg : Cfg) (q : Queue) (n : Nat) :
    (gapSplit cfg (qForward q n).1 n).1.Sublist q ∧ (gapSplit cfg (qForward q n).1 n).2.Sublist q := by
  have h := qForward_sublist q n
  rw [← gapSplit_append cfg (qForward q n).1 n] at h
  exact ⟨(List.sublist_append_left _ _).trans h, (List.sublist_append_right _ _).trans h⟩

theorem promoteOne_cases {I : Pool → Prop} (cfg : Cfg) (p : Pool) (a : Nat) (same : I p)
    (moved : ∀ stay ready all', stay.Sublist (p.waiting a) → ready.Sublist (p.waiting a) →
      ready.length ≤ p.pendingLimit - mCount p.pending → Consec ready (nonceOf p a) →
      I { p with waiting := mSet p.waiting a stay,
                 pending := mSet p.pending a
                   ((ready.filter fun t => !qHas (p.pending a) t.nonce).foldl qInsert (p.pending a)),
                 all := all' }) :
    I (promoteOne cfg p a) := by
  unfold promoteOne
  dsimp only [mGet]
  refine iteInduction (motive := I) (fun _ => same) fun _ => ?_
  -- what stays and what is handed over are the two parts of what `qForward` keeps of the waiting queue
  obtain ⟨hcat, hlen, hc⟩ := qReadyN_spec (qForward (p.waiting a) (nonceOf p a)).1 (nonceOf p a)
    (p.pendingLimit - mCount p.pending) fun x hx => ((mem_qForward_keep _ _ x).mp hx).2
  have h := qForward_sublist (p.waiting a) (nonceOf p a)
  rw [← hcat] at h
  exact moved _ _ _ ((List.sublist_append_right _ _).trans h) ((List.sublist_append_left _ _).trans h) hlen hc

theorem promote_one (cfg : Cfg) (p : Pool) (a : Nat) : promote cfg p [a] = promoteOne cfg p a := by
  rw [promote, List.foldl_cons, List.foldl_nil]

theorem submit_preserves {I : Pool → Prop} {cfg : Cfg} {p : Pool} {t : Tx}
    (hall : ∀ q all', I q → I { q with all := all' }) (hprom : ∀ q, I q → I (promoteOne cfg q t.sender))
    (hadd : I (addWaiting cfg p t).1) (h : I p) : I (submit cfg p t).1 := by
  suffices h' : ∀ J : Pool × SubmitRes → Prop, (∀ q r, I q → J (q, r)) → J (submit cfg p t) from
    h' (fun r => I r.1) fun _ _ hq => hq
  intro J hJ
  unfold submit
  refine iteInduction (fun _ => hJ _ _ h) fun _ => iteInduction (fun _ => hJ _ _ h) fun _ =>
    iteInduction (fun _ => hJ _ _ h) fun _ => ?_
  generalize addWaiting cfg p t = r at hadd
  obtain ⟨p1, o⟩ := r
  cases o
  · refine hJ _ _ ?_
    split
    · rw [promote_one]
      exact hprom _ (hall _ _ hadd)
    · exact hall _ _ hadd
  all_goals exact hJ _ _ hadd

theorem submit_full (cfg : Cfg) (p : Pool) (t : Tx) (h : (submit cfg p t).2 = .full) :
    (addWaiting cfg p t).2 = .full := by
  suffices h' : ∀ J : Pool × SubmitRes → Prop, (∀ q r, r ≠ .full → J (q, r)) → J (addWaiting cfg p t) →
      J (submit cfg p t) from
    h' (fun r => r.2 = .full → (addWaiting cfg p t).2 = .full) (fun _ _ hr e => absurd e hr) id h
  intro J hJ hadd
  unfold submit
  refine iteInduction (fun _ => hJ _ _ nofun) fun _ => iteInduction (fun _ => hJ _ _ nofun) fun _ =>
    iteInduction (fun _ => hJ _ _ nofun) fun _ => ?_
  generalize addWaiting cfg p t = r at hadd
  obtain ⟨p1, o⟩ := r
  cases o
  · exact hJ _ _ nofun
  all_goals exact hadd

/-- `commit` in its stages: the new application state with or without the block's transactions taken
    out, the demotion loop, the promotion loop. The demotion loop is left whole: `PCons` is not kept by
    one account's turn, it holds once every key of the pending map has had its turn. -/
theorem commit_cases {I₀ I : Pool → Prop} {cfg : Cfg} {p : Pool} {included : List Nat} {nonces : List (Nat × Nat)}
    (hkeep : cfg.commitRemoves = false → ∀ ext', I₀ { p with nonces := nonces, ext := ext' })
    (hrem : cfg.commitRemoves = true → ∀ ext' all',
      I₀ { p with nonces := nonces, ext := ext', all := all',
                  pending := fun a => (p.pending a).filter fun t => !included.contains t.id,
                  waiting := fun a => (p.waiting a).filter fun t => !included.contains t.id })
    (hdem : ∀ q, I₀ q → I ((mKeys q.pending).foldl (demoteOne cfg) q))
    (hprom : ∀ q a, a ∈ accounts → I q → I (promoteOne cfg q a)) :
    I (commit cfg p included nonces) := by
  unfold commit promote
  dsimp only
  refine List.foldlRecOn _ _ (hdem _ ?_) fun q hq a ha => hprom q a (mKeys_sub _ a ha) hq
  cases hc : cfg.commitRemoves
  · exact hkeep hc _
  · exact hrem hc _ _

theorem submitAdmin_cases {I : Pool → Prop} (p : Pool) (id : Nat) (same : I p)
    (add : ∀ ext', I { p with ext := ext' }) : I (submitAdmin p id).1 :=
  iteInduction (motive := fun r : Pool × SubmitRes => I r.1) (fun _ => same) fun _ => add _

end AnnVerif.Pool
