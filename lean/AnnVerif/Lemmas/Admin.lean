/-
  Validator-set governance (gemmill/plugin/admin_op.go). `specP`: the power of the DISTINCT validators with
  positive power among the signers, which the repaired `CheckMajor23` loop computes (`major23Loop_start`);
  `ExecTX` and `updateValidators` for one change taken apart once (`execTx_cases`, `applyChange_cases`); the
  last change for an address decides its power (`last_change_sets_power`, C14.7).
-/
import AnnVerif.Model.Admin
import AnnVerif.Lemmas.ValSetMembers
namespace AnnVerif.Admin
open AnnVerif.ValSet
-- `specP` tests an arbitrary predicate on addresses in an `if`
open Classical

noncomputable def specP (vals : List Val) (P : Bytes → Prop) : Int :=
  (vals.map fun v => if v.power > 0 ∧ P v.addr then v.power else 0).sum

theorem specP_cons (x : Val) (t : List Val) (P : Bytes → Prop) :
    specP (x :: t) P = (if x.power > 0 ∧ P x.addr then x.power else 0) + specP t P := by
  simp [specP]

theorem specP_congr (vals : List Val) (P Q : Bytes → Prop)
    (h : ∀ v ∈ vals, v.power > 0 → (P v.addr ↔ Q v.addr)) : specP vals P = specP vals Q :=
  congrArg List.sum (List.map_congr_left fun v hv =>
    ite_congr (propext (and_congr_right (h v hv))) (fun _ => rfl) fun _ => rfl)

theorem specP_mem_nil (vals : List Val) : specP vals (fun a => a ∈ ([] : List Bytes)) = 0 := by
  induction vals with
  | nil => rfl
  | cons x t ih => rw [specP_cons, ih]; simp

def NodupAddr : List Val → Prop
  | [] => True
  | v :: t => (∀ w ∈ t, w.addr ≠ v.addr) ∧ NodupAddr t

theorem powerOf_cons (x : Val) (t : List Val) (a : Bytes) :
    powerOf (x :: t) a = if x.addr = a then some x.power else powerOf t a := by
  unfold powerOf
  rw [List.find?_cons]
  by_cases h : x.addr = a
  · simp [h]
  · simp [h]

theorem powerOf_some_mem {vals : List Val} {a : Bytes} {p : Int} (h : powerOf vals a = some p) :
    ∃ v ∈ vals, v.addr = a ∧ v.power = p :=
  have ⟨v, hv, hp⟩ := Option.map_eq_some_iff.1 h
  have ha := List.find?_some hv
  ⟨v, List.mem_of_find?_eq_some hv, of_decide_eq_true ha, hp⟩

theorem powerOf_mem {vals : List Val} (hn : NodupAddr vals) {v : Val} (hv : v ∈ vals) :
    powerOf vals v.addr = some v.power := by
  induction vals with
  | nil => cases hv
  | cons x t ih =>
    rw [powerOf_cons]
    rcases List.mem_cons.mp hv with rfl | hv
    · rw [if_pos rfl]
    · rw [if_neg (fun e => hn.1 v hv e.symm), ih hn.2 hv]

theorem powerOf_none {vals : List Val} {a : Bytes} (h : powerOf vals a = none) :
    ∀ v ∈ vals, v.addr ≠ a :=
  fun v hv e => List.find?_eq_none.1 (Option.map_eq_none_iff.1 h) v hv (decide_eq_true e)

theorem specP_insert (vals : List Val) (hn : NodupAddr vals) (P : Bytes → Prop) (a : Bytes) (p : Int)
    (hp : powerOf vals a = some p) (hpos : p > 0) (hnew : ¬ P a) :
    specP vals (fun b => b = a ∨ P b) = specP vals P + p := by
  induction vals with
  | nil => cases hp
  | cons x t ih =>
    rw [specP_cons, specP_cons]
    rw [powerOf_cons] at hp
    by_cases hx : x.addr = a
    · rw [if_pos hx] at hp
      have hxp : x.power = p := Option.some.inj hp
      have : specP t (fun b => b = a ∨ P b) = specP t P :=
        specP_congr _ _ _ (fun w hw _ => by simp [show w.addr ≠ a from hx ▸ hn.1 w hw])
      rw [this]
      simp only [hx, hxp, hpos, hnew, true_or, and_true, and_false, if_true, if_false]
      omega
    · rw [if_neg hx] at hp
      rw [ih hn.2 hp]
      simp only [hx, false_or]
      omega

section
variable {cfg : Cfg} (hcfg : cfg.dedupSigners = true) {vals : List Val}
include hcfg

theorem major23Loop_counts (e : SigEntry) (t : List SigEntry) (seen : List Bytes) (acc p : Int)
    (hp : powerOf vals e.addr = some p) (hpos : p > 0) (hns : e.addr ∉ seen) (hok : e.ok = true) :
    major23Loop cfg vals (e :: t) seen acc = major23Loop cfg vals t (e.addr :: seen) (acc + p) := by
  simp [major23Loop, hp, hpos, hcfg, hns, hok]

theorem major23Loop_skips (e : SigEntry) (t : List SigEntry) (seen : List Bytes) (acc : Int)
    (h : ∀ p, powerOf vals e.addr = some p → p > 0 → e.ok = true → e.addr ∈ seen) :
    major23Loop cfg vals (e :: t) seen acc = major23Loop cfg vals t seen acc := by
  simp only [major23Loop]
  cases hp : powerOf vals e.addr with
  | none => rfl
  | some p =>
    by_cases hpos : p > 0
    case neg => simp [hpos]
    by_cases hs : e.addr ∈ seen
    case pos => simp [hpos, hcfg, hs]
    have : e.ok = false := by
      cases hok : e.ok with
      | false => rfl
      | true => exact absurd (h p hp hpos hok) hs
    simp [hpos, hcfg, hs, this]

theorem major23Loop_spec (hn : NodupAddr vals) :
    ∀ (es : List SigEntry) (seen : List Bytes) (acc : Int),
      acc = specP vals (fun a => a ∈ seen) →
      major23Loop cfg vals es seen acc =
        specP vals (fun a => a ∈ seen ∨ ∃ e ∈ es, e.ok = true ∧ e.addr = a) := by
  intro es
  induction es with
  | nil =>
    intro seen acc hacc
    rw [major23Loop, hacc]
    exact specP_congr _ _ _ (fun v _ _ => by simp)
  | cons e t ih =>
    intro seen acc hacc
    by_cases hc : ∃ p, powerOf vals e.addr = some p ∧ p > 0 ∧ e.ok = true ∧ e.addr ∉ seen
    · obtain ⟨p, hp, hpos, hok, hns⟩ := hc
      rw [major23Loop_counts hcfg e t seen acc p hp hpos hns hok, ih (e.addr :: seen) (acc + p)]
      · exact specP_congr _ _ _ (fun v _ _ => by
          simp only [List.mem_cons, exists_eq_or_imp, hok, true_and]
          rw [or_assoc, or_left_comm, eq_comm (a := v.addr)])
      · rw [hacc, ← specP_insert vals hn _ e.addr p hp hpos hns]
        exact specP_congr _ _ _ (fun v _ _ => List.mem_cons.symm)
    · rw [major23Loop_skips hcfg e t seen acc (fun p hp hpos hok =>
        Classical.byContradiction fun hns => hc ⟨p, hp, hpos, hok, hns⟩), ih seen acc hacc]
      apply specP_congr
      intro v hv hvp
      have hseen : e.ok = true ∧ e.addr = v.addr → v.addr ∈ seen := fun ⟨hok, ha⟩ =>
        Classical.byContradiction fun hns =>
          hc ⟨v.power, ha ▸ powerOf_mem hn hv, hvp, hok, ha ▸ hns⟩
      simp only [List.mem_cons, exists_eq_or_imp]
      rw [← or_assoc, or_iff_left_of_imp hseen]

/-- `CheckMajor23` (repaired): each validator once, whatever the order, multiplicity or content of the
    entry list -/
theorem major23Loop_start (hn : NodupAddr vals) (es : List SigEntry) :
    major23Loop cfg vals es [] 0 = specP vals (fun a => ∃ e ∈ es, e.ok = true ∧ e.addr = a) := by
  rw [major23Loop_spec hcfg hn es [] 0 (specP_mem_nil vals).symm]
  exact specP_congr _ _ _ (fun v _ _ => by simp)
end

theorem applyChange_cases {vs v1 : ValSet} {c : Change} (h : applyChange vs c = some v1) :
    (v1 = vs ∧ (c.cmd = .other ∨ powerOf vs.vals c.target = some c.power)) ∨
    (powerOf vs.vals c.target = none ∧ (add vs ⟨c.target, c.power, 0⟩).2 = true ∧
      (add vs ⟨c.target, c.power, 0⟩).1 = v1) ∨
    (∃ v, v.addr = c.target ∧ v.power = c.power ∧ (update vs v).2 = true ∧ (update vs v).1 = v1) ∨
    (c.cmd = .remove ∧ (remove vs c.target).2 = true ∧ (remove vs c.target).1 = v1) := by
  unfold applyChange at h
  cases hc : c.cmd
  all_goals simp only [hc] at h
  case add | update =>
    cases hp : powerOf vs.vals c.target with
    | none =>
      simp only [hp] at h
      exact .inr (.inl ⟨rfl, Option.ite_some_none_eq_some.1 h⟩)
    | some p =>
      simp only [hp] at h
      by_cases hne : p = c.power
      · rw [if_neg (not_not_intro hne)] at h
        exact .inl ⟨(Option.some.inj h).symm, .inr (hne ▸ rfl)⟩
      · rw [if_pos hne] at h
        cases hf : vs.vals.find? (fun v => v.addr = c.target) with
        | none => simp only [hf] at h; cases h
        | some v =>
          simp only [hf] at h
          have hv : v.addr = c.target := by simpa using List.find?_some hf
          exact .inr (.inr (.inl ⟨{ v with power := c.power }, hv, rfl, Option.ite_some_none_eq_some.1 h⟩))
  case remove => exact .inr (.inr (.inr ⟨rfl, Option.ite_some_none_eq_some.1 h⟩))
  case other => exact .inl ⟨(Option.some.inj h).symm, .inl rfl⟩

theorem applyChange_sorted (vs v1 : ValSet) (c : Change) (hs : Sorted vs.vals)
    (h : applyChange vs c = some v1) : Sorted v1.vals := by
  rcases applyChange_cases h with ⟨rfl, _⟩ | ⟨_, _, rfl⟩ | ⟨v, _, _, _, rfl⟩ | ⟨_, _, rfl⟩
  · exact hs
  · exact add_sorted vs _ hs
  · exact update_sorted vs v hs
  · exact remove_sorted vs _ hs

/-- the `sort.Search` position is the first that can hold address `a`: a lookup of `a` passes over
    everything in front of it -/
theorem powerOf_skip (a : Bytes) (rest : List Val) : ∀ l : List Val,
    powerOf (l.take (searchIdx l a) ++ rest) a = powerOf rest a
  | [] => rfl
  | x :: t => by
    rw [searchIdx_cons]
    by_cases hx : bytesLt x.addr a = true
    · have hne : x.addr ≠ a := fun e => by
        rw [e, bytesLt_irrefl] at hx
        cases hx
      rw [if_pos hx, List.take_succ_cons, List.cons_append, powerOf_cons, if_neg hne]
      exact powerOf_skip a rest t
    · rw [if_neg hx, List.take_zero, List.nil_append]

theorem powerOf_update (vs : ValSet) (v : Val) (h : (update vs v).2 = true) :
    powerOf (update vs v).1.vals v.addr = some v.power := by
  refine update_cases (J := fun r => r.2 = true → powerOf r.1.vals v.addr = some v.power) vs v nofun
    (fun w hw _ _ => ?_) h
  dsimp only
  rw [List.set_eq_take_append_cons_drop, if_pos (List.getElem?_eq_some_iff.mp hw).1, powerOf_skip, powerOf_cons,
    if_pos rfl]

theorem powerOf_add (vs : ValSet) (v : Val) (h : (add vs v).2 = true) :
    powerOf (add vs v).1.vals v.addr = some v.power := by
  refine add_cases (J := fun r => r.2 = true → powerOf r.1.vals v.addr = some v.power) vs v nofun
    (fun _ _ => ?_) h
  dsimp only
  rw [List.append_assoc, powerOf_skip, List.singleton_append, powerOf_cons, if_pos rfl]

theorem applyChange_sets_power (vs vs' : ValSet) (cmd : Cmd) (a : Bytes) (p : Int)
    (hcmd : cmd = .add ∨ cmd = .update) (h : applyChange vs ⟨cmd, a, p⟩ = some vs') :
    powerOf vs'.vals a = some p := by
  rcases applyChange_cases h with ⟨rfl, hc | hp⟩ | ⟨_, hok, rfl⟩ | ⟨v, ha, hp, hok, rfl⟩ | ⟨hc, _⟩
  · rcases hcmd with rfl | rfl <;> cases hc
  · exact hp
  · exact powerOf_add vs ⟨a, p, 0⟩ hok
  · rw [← show v.addr = a from ha, ← show v.power = p from hp]
    exact powerOf_update vs v hok
  · rcases hcmd with rfl | rfl <;> cases hc

theorem applyChanges_append (vs : ValSet) (cs ds : List Change) :
    applyChanges vs (cs ++ ds) = (applyChanges vs cs).bind (fun v => applyChanges v ds) := by
  induction cs generalizing vs with
  | nil => rfl
  | cons c t ih =>
    simp only [List.cons_append, applyChanges]
    cases applyChange vs c with
    | none => rfl
    | some v1 => exact ih v1

/-- C14.7 for a last "add" as well as a last "update", member before or not -/
theorem last_change_sets_power (vs vs' : ValSet) (cs : List Change) (cmd : Cmd) (a : Bytes) (p : Int)
    (hcmd : cmd = .add ∨ cmd = .update) (h : applyChanges vs (cs ++ [⟨cmd, a, p⟩]) = some vs') :
    powerOf vs'.vals a = some p := by
  rw [applyChanges_append] at h
  obtain ⟨mid, -, h⟩ := Option.bind_eq_some_iff.mp h
  obtain ⟨v1, hc, h⟩ := Option.bind_eq_some_iff.mp h
  cases h
  exact applyChange_sets_power mid _ cmd a p hcmd hc

theorem execTx_cases {J : Res × Option Change → Prop} (cfg : Cfg) (vals : List Val) (from_ : Bytes) (n : Nat)
    (r : Request) (refused : ∀ e, e.isAccepted = false → J (e, none))
    (accepted : checkMajor23 cfg vals r.sinfos = true → r.cmdTypeOk = true → r.parseOk = true →
      from_ = r.attrAddr → r.attrNonce + 1 = n →
      J (.accepted false, none) ∧ J (.accepted true, some ⟨r.cmd, r.target, r.power⟩)) :
    J (execTx cfg vals from_ n r) := by
  unfold execTx
  refine iteInduction (motive := J) (fun _ => refused .errMajor rfl) fun h1 =>
    iteInduction (fun _ => refused .errType rfl) fun h2 =>
    iteInduction (fun _ => refused .errParse rfl) fun h3 =>
    iteInduction (fun _ => refused .errFrom rfl) fun h4 =>
    iteInduction (fun _ => refused .errNonce rfl) fun h5 => ?_
  obtain ⟨noop, queued⟩ := accepted (by simpa using h1) (by simpa using h2) (by simpa using h3)
    (Classical.not_not.1 h4) (Classical.not_not.1 h5)
  cases hc : r.cmd with
  | add =>
    exact iteInduction (motive := J) (fun _ => refused .errSelf rfl) fun _ =>
      iteInduction (fun _ => noop) fun _ => hc ▸ queued
  | update =>
    cases powerOf vals r.target with
    | none => exact refused .errNotAdded rfl
    | some p => exact iteInduction (motive := J) (fun _ => noop) fun _ => hc ▸ queued
  | remove => exact iteInduction (motive := J) (fun _ => noop) fun _ => hc ▸ queued
  | other => exact refused .errCmd rfl

theorem nonceOf_bump_self (m : List (Bytes × Nat)) (a : Bytes) :
    nonceOf (bump m a) a = nonceOf m a + 1 := by
  simp [bump, nonceOf]

theorem nonceOf_bump_ne (m : List (Bytes × Nat)) (a b : Bytes) (h : b ≠ a) :
    nonceOf (bump m a) b = nonceOf m b := by
  have same : (fun x : Bytes × Nat => decide (decide (x.1 ≠ a) = true ∧ decide (x.1 = b) = true)) =
      fun x => decide (x.1 = b) := by
    funext x
    by_cases hx : x.1 = b
    · simp [hx, h]
    · simp [hx]
  unfold bump nonceOf
  rw [List.find?_cons_of_neg (by simpa using h.symm), List.find?_filter, same]

end AnnVerif.Admin
