/-
  Proportional selection: the abstract accumulate / pick-a-maximum / subtract-the-total scheme
  selects validator j exactly w j times in T = Σ w consecutive rounds, whatever the tie-break.
-/
namespace AnnVerif.Fairness

/-- Σ_{j<N} f j -/
def S : Nat → (Nat → Int) → Int
  | 0, _ => 0
  | n + 1, f => S n f + f n

theorem S_congr (N : Nat) (f g : Nat → Int) (h : ∀ j, j < N → f j = g j) : S N f = S N g := by
  induction N with
  | zero => rfl
  | succ n ih =>
    simp only [S]
    rw [ih (fun j hj => h j (by omega)), h n (by omega)]

theorem S_zero (N : Nat) : S N (fun _ => 0) = 0 := by
  induction N with
  | zero => rfl
  | succ n ih => rw [S, ih]; rfl

theorem S_lin (N : Nat) (f g : Nat → Int) (a b : Int) :
    S N (fun j => a * f j - b * g j) = a * S N f - b * S N g := by
  induction N with
  | zero => simp [S]
  | succ n ih => simp only [S, ih, Int.mul_add]; omega

theorem S_add (N : Nat) (f g : Nat → Int) : S N (fun j => f j + g j) = S N f + S N g := by
  induction N with
  | zero => simp [S]
  | succ n ih => simp only [S, ih]; omega

theorem S_mono (N : Nat) (f g : Nat → Int) (h : ∀ j, j < N → f j ≤ g j) : S N f ≤ S N g := by
  induction N with
  | zero => exact Int.le_refl _
  | succ n ih =>
    have := ih (fun j hj => h j (by omega))
    have := h n (by omega)
    simp only [S]
    omega

theorem S_nonneg (N : Nat) (f : Nat → Int) (h : ∀ j, j < N → 0 ≤ f j) : 0 ≤ S N f :=
  S_zero N ▸ S_mono N _ f h

theorem S_shift (n : Nat) (f : Nat → Int) : S (n + 1) f = f 0 + S n (fun j => f (j + 1)) := by
  induction n with
  | zero => simp [S]
  | succ k ih =>
    rw [S, ih]
    simp only [S]
    omega

theorem S_eq_zero (N : Nat) (f : Nat → Int) (h : ∀ j, j < N → 0 ≤ f j) (hs : S N f = 0) :
    ∀ j, j < N → f j = 0 := by
  induction N with
  | zero => intro j hj; omega
  | succ n ih =>
    intro j hj
    have h1 := S_nonneg n f (fun j hj => h j (by omega))
    have h2 := h n (by omega)
    simp only [S] at hs
    by_cases hjn : j = n
    · subst hjn; omega
    · exact ih (fun j hj => h j (by omega)) (by omega) j (by omega)

theorem S_indicator (N i : Nat) (hi : i < N) : S N (fun j => if i = j then 1 else 0) = 1 := by
  induction N with
  | zero => omega
  | succ n ih =>
    rw [S]
    by_cases hin : i = n
    · subst hin
      rw [S_congr i _ (fun _ => 0) (fun j hj => if_neg (by omega)), S_zero, if_pos rfl]
      rfl
    · rw [ih (by omega), if_neg hin]
      rfl

section
variable (N : Nat) (w : Nat → Int) (T : Int) (ch : Nat → Nat)

/-- how often `j` was chosen in the first `n` rounds -/
def cnt : Nat → Nat → Int
  | 0, _ => 0
  | n + 1, j => cnt n j + (if ch n = j then 1 else 0)

/-- accum of validator `j` after `n` rounds from all-zero accums -/
def acc (n j : Nat) : Int := n * w j - T * cnt ch n j

/-- round `n` picks a validator whose accum-plus-power is maximal (ANY tie-break) -/
def ValidAt (n : Nat) : Prop :=
  ch n < N ∧ ∀ j, j < N → acc w T ch n j + w j ≤ acc w T ch n (ch n) + w (ch n)

theorem S_cnt (n : Nat) (h : ∀ m, m < n → ch m < N) : S N (cnt ch n) = n := by
  induction n with
  | zero => exact S_zero N
  | succ k ih =>
    show S N (fun j => cnt ch k j + (if ch k = j then 1 else 0)) = _
    rw [S_add, ih (fun m hm => h m (by omega)), S_indicator N (ch k) (h k (by omega))]
    omega

theorem cnt_nonneg (n j : Nat) : 0 ≤ cnt ch n j := by
  induction n with
  | zero => simp [cnt]
  | succ k ih => simp only [cnt]; split <;> omega

theorem S_acc (hT : T = S N w) (n : Nat) (h : ∀ m, m < n → ch m < N) : S N (acc w T ch n) = 0 := by
  unfold acc
  rw [S_lin, S_cnt N ch n h, ← hT, Int.mul_comm]
  exact Int.sub_self _

theorem cnt_le (hw : ∀ j, j < N → 0 ≤ w j) (hT : T = S N w) (hTpos : 0 < T)
    (hvalid : ∀ n : Nat, (n : Int) < T → ValidAt N w T ch n) :
    ∀ n : Nat, (n : Int) ≤ T → ∀ j, j < N → cnt ch n j ≤ w j := by
  intro n
  induction n with
  | zero => intro _ j hj; exact hw j hj
  | succ k ih =>
    intro hk j hj
    have ihk := ih (by omega) j hj
    rw [cnt]
    split
    case isFalse => omega
    case isTrue hc =>
      subst hc
      obtain ⟨hci, hmax⟩ := hvalid k (by omega)
      -- the scores `acc + w` sum to T > 0, so the maximal one is positive
      have hsum : S N (fun j => acc w T ch k j + w j) = T := by
        rw [S_add, S_acc N w T ch hT k (fun m hm => (hvalid m (by omega)).1), ← hT]
        omega
      have hpos : 0 < acc w T ch k (ch k) + w (ch k) := by
        apply Classical.byContradiction
        intro hneg
        have := S_mono N (fun j => acc w T ch k j + w j) (fun _ => 0)
          (fun j hj => by have := hmax j hj; omega)
        rw [hsum, S_zero] at this
        omega
      -- so (k+1) w_i > T cnt_i, while (k+1) w_i ≤ T w_i
      have h1 : ((k : Int) + 1) * w (ch k) ≤ T * w (ch k) :=
        Int.mul_le_mul_of_nonneg_right (by omega) (hw _ hci)
      have h2 : T * cnt ch k (ch k) < T * w (ch k) := by
        rw [Int.add_mul] at h1
        unfold acc at hpos
        omega
      have := Int.lt_of_mul_lt_mul_left h2 (by omega)
      omega

/-- FAIRNESS: in T = Σ w consecutive rounds from zero accums, validator j is chosen exactly
    w j times, for EVERY tie-break — and the accums are back to zero (so the sequence is periodic
    with period T and the same holds for every window of T consecutive rounds on that orbit). -/
theorem fair (hw : ∀ j, j < N → 0 ≤ w j) (hT : T = S N w) (hTpos : 0 < T)
    (hvalid : ∀ n : Nat, (n : Int) < T → ValidAt N w T ch n) :
    (∀ j, j < N → cnt ch T.toNat j = w j) ∧ (∀ j, j < N → acc w T ch T.toNat j = 0) := by
  have hcnt : ∀ j, j < N → cnt ch T.toNat j = w j := by
    have hle := cnt_le N w T ch hw hT hTpos hvalid T.toNat (by omega)
    have hz : S N (fun j => w j - cnt ch T.toNat j) = 0 := by
      have := S_lin N w (cnt ch T.toNat) 1 1
      simp only [Int.one_mul] at this
      rw [this, S_cnt N ch T.toNat (fun m hm => (hvalid m (by omega)).1), ← hT]
      omega
    intro j hj
    have := S_eq_zero N _ (fun j hj => by have := hle j hj; omega) hz j hj
    omega
  refine ⟨hcnt, fun j hj => ?_⟩
  unfold acc
  rw [hcnt j hj, Int.toNat_of_nonneg (Int.le_of_lt hTpos)]
  exact Int.sub_self _

end
end AnnVerif.Fairness
