/-
  The journal of the state database model. `StepOK d d'`: `d'` comes from `d` by mutations (each undone
  exactly by the entries it appended to the journal), by snapshots and by reverts to snapshots taken on
  the way. It is a preorder; every mutation (`apply_ok`) and `snapshot` is a step, and so is a snapshot
  with whatever steps follow it and the revert to it, which gives the accounts, journal and snapshots of
  that moment back (`restores`). `finalise*` and `commit*` empty the journal and are not steps.
  J1-J6 are the labels of the header of Props/C11.lean.
-/
import AnnVerif.Model.StateJournal
namespace AnnVerif.C11
open AnnVerif AnnVerif.StateJournal

theorem put_same (as : Accounts) (a : Nat) (x : Acct) : find (put as a x) a = some x := by
  simp [find, put]

theorem put_put (as : Accounts) (a : Nat) (x y : Acct) : put (put as a x) a y = put as a y := by
  funext b; simp only [put]; split <;> rfl

theorem put_find (as : Accounts) (a : Nat) (x : Acct) (h : find as a = some x) : put as a x = as := by
  funext b; simp only [put]; split
  · rename_i e; subst e; exact h.symm
  · rfl

theorem remove_put (as : Accounts) (a : Nat) (x : Acct) (h : find as a = none) : remove (put as a x) a = as := by
  funext b; simp only [remove, put]; split
  · rename_i e; subst e; exact h.symm
  · rfl

theorem sput_undo (st : Nat → Nat) (k v : Nat) : sput (sput st k v) k (sget st k) = st := by
  funext j; simp only [sput, sget]; split
  · rename_i e; rw [e]
  · rfl

/-- undo a list of entries, newest first -/
def undoAll (as : Accounts) (es : List Entry) : Accounts := es.reverse.foldl undo as

theorem undoAll_nil (as : Accounts) : undoAll as [] = as := rfl

theorem undoAll_singleton (as : Accounts) (e : Entry) : undoAll as [e] = undo as e := rfl

theorem undoAll_append (as : Accounts) (e1 e2 : List Entry) :
    undoAll as (e1 ++ e2) = undoAll (undoAll as e2) e1 := by
  simp [undoAll, List.reverse_append, List.foldl_append]

/-- snapshot ids handed out so far are below the next id -/
def SnapsOK (d : DB) : Prop := ∀ s ∈ d.snaps, s.1 < d.nextId

/-- the journal has grown by entries that, undone newest first, give the accounts of `d` back (J1); the
    snapshots `d` had stand first on the list; the ids handed out since lie between the two counters -/
structure StepOK (d d' : DB) : Prop where
  ext : ∃ es, d'.journal = d.journal ++ es ∧ undoAll d'.accts es = d.accts
  snaps : ∃ later, d'.snaps = d.snaps ++ later ∧ ∀ s ∈ later, d.nextId ≤ s.1 ∧ s.1 < d'.nextId
  nextId : d.nextId ≤ d'.nextId

theorem StepOK.of_same {d d' : DB} (ext : ∃ es, d'.journal = d.journal ++ es ∧ undoAll d'.accts es = d.accts)
    (hs : d'.snaps = d.snaps) (hn : d.nextId ≤ d'.nextId) : StepOK d d' :=
  ⟨ext, ⟨[], by rw [hs, List.append_nil], fun _ h => absurd h List.not_mem_nil⟩, hn⟩

theorem StepOK.refl (d : DB) : StepOK d d :=
  .of_same ⟨[], (List.append_nil _).symm, undoAll_nil _⟩ rfl (Nat.le_refl _)

theorem StepOK.trans {a b c : DB} (h1 : StepOK a b) (h2 : StepOK b c) : StepOK a c := by
  obtain ⟨e1, hj1, hu1⟩ := h1.ext
  obtain ⟨e2, hj2, hu2⟩ := h2.ext
  obtain ⟨l1, hs1, hb1⟩ := h1.snaps
  obtain ⟨l2, hs2, hb2⟩ := h2.snaps
  refine ⟨⟨e1 ++ e2, by rw [hj2, hj1, List.append_assoc], by rw [undoAll_append, hu2, hu1]⟩,
    ⟨l1 ++ l2, by rw [hs2, hs1, List.append_assoc], fun s hs => ?_⟩, Nat.le_trans h1.nextId h2.nextId⟩
  rcases List.mem_append.mp hs with h | h
  · exact ⟨(hb1 s h).1, Nat.lt_of_lt_of_le (hb1 s h).2 h2.nextId⟩
  · exact ⟨Nat.le_trans h1.nextId (hb2 s h).1, (hb2 s h).2⟩

theorem StepOK.snapsOK {d d' : DB} (h : StepOK d d') (hd : SnapsOK d) : SnapsOK d' := by
  obtain ⟨later, hs, hb⟩ := h.snaps
  intro s hs'
  rw [hs] at hs'
  rcases List.mem_append.mp hs' with h' | h'
  · exact Nat.lt_of_lt_of_le (hd s h') h.nextId
  · exact (hb s h').2

theorem StepOK.entry (d : DB) {as : Accounts} {e : Entry} (h : undo as e = d.accts) :
    StepOK d { d with accts := as, journal := d.journal ++ [e] } :=
  .of_same ⟨[e], rfl, (undoAll_singleton as e).trans h⟩ rfl (Nat.le_refl _)

theorem StepOK.snapshot (d : DB) : StepOK d (snapshot d).1 :=
  ⟨⟨[], (List.append_nil _).symm, undoAll_nil _⟩,
    ⟨[(d.nextId, d.journal.length)], rfl, fun s hs => by
      rw [List.mem_singleton.mp hs]; exact ⟨Nat.le_refl _, Nat.lt_succ_self _⟩⟩,
    Nat.le_succ _⟩

theorem touch_ok (d : DB) (a : Nat) :
    StepOK d (touch d a).1 ∧ find (touch d a).1.accts a = some (touch d a).2 := by
  unfold touch
  cases h : find d.accts a with
  | some x => exact ⟨.refl d, h⟩
  | none => exact ⟨.entry d (remove_put _ _ _ h), put_same _ _ _⟩

/-- a field update on the touched account, journalled with the previous value -/
theorem field_ok (d : DB) (a : Nat) (x' : Acct) (e : Entry)
    (hundo : ∀ as, find as a = some x' → undo as e = put as a (touch d a).2) :
    StepOK d { (touch d a).1 with accts := put (touch d a).1.accts a x', journal := (touch d a).1.journal ++ [e] } := by
  obtain ⟨ht, hf⟩ := touch_ok d a
  refine ht.trans (.entry _ ?_)
  rw [hundo _ (put_same _ _ _), put_put, put_find _ _ _ hf]

inductive Op where
  | nonce (a n : Nat) | balance (a n : Nat) | code (a : Nat) (c : Bytes) | state (a k v : Nat)
  | create (a : Nat) | suicide (a : Nat)

def apply (d : DB) : Op → DB
  | .nonce a n => setNonce d a n
  | .balance a n => setBalance d a n
  | .code a c => setCode d a c
  | .state a k v => setState d a k v
  | .create a => createAccount d a
  | .suicide a => suicide d a

/-- J1 (C11): every mutation of the state database is undone exactly by the journal entries it appends -/
theorem apply_ok (d : DB) (op : Op) : StepOK d (apply d op) := by
  cases op with
  | nonce a n =>
    exact field_ok d a _ (.nonce a (touch d a).2.nonce) (by intro as h; simp only [undo, h])
  | balance a n =>
    exact field_ok d a _ (.balance a (touch d a).2.balance) (by intro as h; simp only [undo, h])
  | code a c =>
    exact field_ok d a _ (.code a (touch d a).2.code) (by intro as h; simp only [undo, h])
  | state a k v =>
    simp only [apply, setState]
    by_cases hsame : sget (touch d a).2.storage k = v
    · rw [if_pos hsame]
      exact (touch_ok d a).1
    · rw [if_neg hsame]
      exact field_ok d a _ (.storage a k (sget (touch d a).2.storage k))
        (by intro as h; simp only [undo, h, sput_undo])
  | create a =>
    simp only [apply, createAccount]
    cases h : find d.accts a with
    | none => exact .entry d (remove_put _ _ _ h)
    | some prev => exact .entry d (by simp only [undo, put_put, put_find _ _ _ h])
  | suicide a =>
    simp only [apply, suicide]
    cases h : find d.accts a with
    | none => exact .refl d
    | some x =>
      refine .entry d ?_
      simp only [undo, put_same, put_put]
      exact put_find _ _ _ h

theorem run_ok (ops : List Op) : ∀ d : DB, StepOK d (ops.foldl apply d) := by
  induction ops with
  | nil => exact .refl
  | cons op r ih => exact fun d => (apply_ok d op).trans (ih _)

/-! ### J2, J3: reverting to a snapshot -/

/-- the snapshot of `d0`, the steps that follow and the revert are together a step from `d0`: that is
    what nests (J3) -/
theorem restores {d0 d : DB} (h0 : SnapsOK d0) (h : StepOK (snapshot d0).1 d) :
    ∃ d', StepOK d0 d' ∧ revert d d0.nextId = some d' ∧ d'.accts = d0.accts ∧ d'.journal = d0.journal ∧
      d'.snaps = d0.snaps := by
  obtain ⟨es, hj, hu⟩ := h.ext
  obtain ⟨later, hs, hl⟩ := h.snaps
  replace hj : d.journal = d0.journal ++ es := hj
  replace hs : d.snaps = d0.snaps ++ (d0.nextId, d0.journal.length) :: later := by
    rw [hs]; exact List.append_assoc _ _ _
  -- the ids of `d0.snaps` are below that of the snapshot (`h0`), those of `later` above it (`hl`)
  have hfind : d.snaps.find? (fun s => s.1 == d0.nextId) = some (d0.nextId, d0.journal.length) := by
    rw [hs, List.find?_append, List.find?_eq_none.mpr fun s hs' => by have := h0 s hs'; simp; omega]
    simp
  have ha : undoAll d.accts (d.journal.drop d0.journal.length) = d0.accts := by
    rw [hj, List.drop_left]; exact hu
  have hjt : d.journal.take d0.journal.length = d0.journal := by rw [hj, List.take_left]
  have hsf : d.snaps.filter (fun s => decide (s.1 < d0.nextId)) = d0.snaps := by
    rw [hs, List.filter_append, List.filter_cons_of_neg (by simp),
      List.filter_eq_self.mpr fun s hs' => decide_eq_true (h0 s hs'),
      List.filter_eq_nil_iff.mpr fun s hs' => by have : d0.nextId + 1 ≤ s.1 := (hl s hs').1; simp; omega,
      List.append_nil]
  unfold revert
  rw [hfind]
  refine ⟨_, ?_, rfl, ha, hjt, hsf⟩
  exact .of_same ⟨[], by rw [List.append_nil]; exact hjt, (undoAll_nil _).trans ha⟩ hsf (Nat.le_of_succ_le h.nextId)

/-! ### J4-J6: `Commit(true)` -/

theorem commitDel_accts (d : DB) (persisted : Accounts) (a : Nat) :
    (commitDel d persisted).accts a =
      if d.objDirty.contains a || journalDirty d a then
        match d.accts a with
        | some x => if x.suicided || x.isEmpty then none else some x
        | none => none
      else persisted a := rfl

end AnnVerif.C11
