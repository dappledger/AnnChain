/-
  The handlers of the round state machine (Model/Node.lean) as sequences of atomic moves.

  `Move n n'` lists the state changes the code can make, each with what the code has tested when it
  makes it; a move is a block of assignments between two calls of other transition functions, so
  that every run invariant of the node holds before and after it. `Moves` is a sequence of moves.
  Each handler is walked ONCE here (`moves_enterPrevote` … `moves_stepIn`): whatever the input
  (`In`, `stepIn`: NodeRun), `stepIn n i` is reached from `n` by moves. A run invariant is then proved
  move by move (`Moves.preserves`, `run_keeps`) and never looks at a handler again. (The
  transition-local theorems - C04 L1-L5, C08 X2-X6, C12 P1-P5 - say what ONE handler returns on given
  arguments, which a sequence of moves does not record: they walk or evaluate that handler themselves.)

  Two things a move cannot know by itself are parameters. `timed`: the timeouts that fire are for
  rounds the node has entered (`WellTimed`); then a prevote or precommit is signed in the round it
  is for. `off`: the votes the input offers to the vote sets.
-/
import AnnVerif.Lemmas.NodeRun
import AnnVerif.Lemmas.ValSetFair
import AnnVerif.Lemmas.Logic

namespace AnnVerif.Node

/-- what the entry test of `enterPropose` … `enterPrecommitWait` has established when it lets the
    node into step `s` of round `r` -/
structure Enters (n : Node) (h r : Int) (s : Step) : Prop where
  height : n.height = h
  round : n.round ≤ r
  step : n.round = r → n.step.toNat < s.toNat

theorem Enters.of_guard {n : Node} {h r : Int} {s : Step}
    (hg : ¬ (n.height ≠ h ∨ r < n.round ∨ (n.round = r ∧ s ≤ n.step))) : Enters n h r s :=
  ⟨Classical.not_not.mp fun x => hg (Or.inl x), Int.not_lt.mp fun x => hg (Or.inr (Or.inl x)),
    fun e => Nat.lt_of_not_le fun x => hg (Or.inr (Or.inr ⟨e, x⟩))⟩

/-- what `signAddVote n t bid` signs: nothing (not a validator, or the signer refuses) or one vote -/
def OwnVote (n : Node) (t : Nat) (bid : VoteSet.BlockID) (x : List VoteSet.Vote) : Prop :=
  x = [] ∨ ∃ (i : Nat) (a : Bytes), n.me = some i ∧ x = [⟨i, a, n.height, n.round, t, bid, 0⟩]

theorem OwnVote.mem {n : Node} {t : Nat} {bid : VoteSet.BlockID} {x : List VoteSet.Vote} (o : OwnVote n t bid x)
    {m : VoteSet.Vote} (hm : m ∈ x) :
    m.height = n.height ∧ m.round = n.round ∧ m.type = t ∧ m.bid = bid ∧ ∃ i : Nat, n.me = some i ∧ m.idx = (i : Int) := by
  rcases o with rfl | ⟨i, a, hi, rfl⟩
  · cases hm
  · cases List.mem_singleton.mp hm
    exact ⟨rfl, rfl, rfl, rfl, i, hi, rfl⟩

theorem OwnVote.length_le {n : Node} {t : Nat} {bid : VoteSet.BlockID} {x : List VoteSet.Vote} (o : OwnVote n t bid x) :
    x.length ≤ 1 := by
  rcases o with rfl | ⟨_, _, _, rfl⟩
  · exact Nat.zero_le _
  · exact Nat.le_refl _

abbrev signedWith (n : Node) (s : Signer.St) (x : List VoteSet.Vote) : Node :=
  { n with signer := s, queue := n.queue ++ x.map (Msg.vote · true), signed := n.signed ++ x }

theorem signedWith_nil (n : Node) (s : Signer.St) : signedWith n s [] = { n with signer := s } := by
  simp [signedWith]

theorem signAddVote_eq (n : Node) (t : Nat) (bid : VoteSet.BlockID) :
    ∃ s x, OwnVote n t bid x ∧ signAddVote n t bid = signedWith n s x := by
  unfold signAddVote
  split
  · rename_i i a hi _
    dsimp only
    split
    · exact ⟨_, [_], Or.inr ⟨i, a, hi, rfl⟩, rfl⟩
    · exact ⟨_, [], Or.inl rfl, (signedWith_nil _ _).symm⟩
  · exact ⟨n.signer, [], Or.inl rfl, (signedWith_nil _ _).symm⟩

theorem signAddVote_queue (n : Node) (t : Nat) (bid : VoteSet.BlockID) :
    (signAddVote n t bid).queue = n.queue ∨
    ∃ i a, (signAddVote n t bid).queue = n.queue ++ [.vote ⟨i, a, n.height, n.round, t, bid, 0⟩ true] := by
  obtain ⟨s, x, hx, e⟩ := signAddVote_eq n t bid
  rw [e]
  rcases hx with rfl | ⟨i, a, _, rfl⟩
  · exact Or.inl (List.append_nil _)
  · exact Or.inr ⟨i, a, rfl⟩

theorem signAddVote_lock (n : Node) (t : Nat) (bid : VoteSet.BlockID) :
    (signAddVote n t bid).lockedBlock = n.lockedBlock ∧ (signAddVote n t bid).lockedRound = n.lockedRound := by
  obtain ⟨s, x, _, e⟩ := signAddVote_eq n t bid
  rw [e]
  exact ⟨rfl, rfl⟩

theorem doPrevote_eq (n : Node) :
    ∃ bid, (match n.lockedBlock with
            | some b => bid = bidOf b
            | none => bid = bidOf [] ∨ ∃ b, n.proposalBlock = some b ∧ isValid n b = true ∧ bid = bidOf b) ∧
      doPrevote n = signAddVote n 1 bid := by
  unfold doPrevote
  cases n.lockedBlock with
  | some b => exact ⟨_, rfl, rfl⟩
  | none =>
    cases hp : n.proposalBlock with
    | none => exact ⟨_, Or.inl rfl, rfl⟩
    | some b =>
      by_cases hv : isValid n b = true
      · exact ⟨_, Or.inr ⟨b, rfl, hv, rfl⟩, (if_pos hv)⟩
      · exact ⟨_, Or.inl rfl, (if_neg hv)⟩

theorem decideProposal_eq (n : Node) (h r : Int) :
    ∃ s q f t, (q = [] ∨ ∃ p i, q = [.proposal p i false, .parts n.height n.round p.block] ∧
        ∀ b, n.lockedBlock = some b → p.block = b) ∧
      decideProposal n h r = { n with signer := s, queue := n.queue ++ q, fresh := f, validTab := n.validTab ++ t } := by
  unfold decideProposal
  extract_lets own block pol p res m
  have hm : ∃ f t, m = { n with fresh := f, validTab := n.validTab ++ t } := by
    unfold m
    split
    · exact ⟨_, [_], rfl⟩
    · exact ⟨n.fresh, [], by simp⟩
  obtain ⟨f, t, hm⟩ := hm
  split
  · rename_i i _
    split
    · refine ⟨res.1, _, f, t, Or.inr ⟨p, i, rfl, fun b hb => ?_⟩, by rw [hm]⟩
      show block = b
      unfold block
      rw [hb]
    · exact ⟨res.1, [], n.fresh, [], Or.inl rfl, by simp⟩
  · exact ⟨res.1, [], n.fresh, [], Or.inl rfl, by simp⟩

/-- `VoteSet.AddVote` of `v` on the vote set of its type among `rv`, the vote sets of its round -/
abbrev offerVote (n : Node) (v : VoteSet.Vote) (ok : Bool) (rv : RoundVotes) : Node :=
  { n with rounds := n.rounds.map fun x => if x.round = v.round then
      (if v.type = 1 then { rv with prevotes := (VoteSet.addVote VoteSet.repaired rv.prevotes v ok).1 }
       else { rv with precommits := (VoteSet.addVote VoteSet.repaired rv.precommits v ok).1 }) else x }

theorem hvsAddVote_eq (n : Node) (v : VoteSet.Vote) (sigok : Bool) (peer : String) :
    ∃ m, (m = n ∨ ∃ c, m = { n with rounds := n.rounds ++ [newRoundVotes n n.height v.round], catchup := c }) ∧
      (hvsAddVote n v sigok peer = (m, .dup) ∨ ∃ rv, getRound m v.round = some rv ∧
        hvsAddVote n v sigok peer = (offerVote m v sigok rv,
          (VoteSet.addVote VoteSet.repaired (if v.type = 1 then rv.prevotes else rv.precommits) v sigok).2)) := by
  unfold hvsAddVote
  by_cases ht : v.type ≠ 1 ∧ v.type ≠ 2
  · rw [if_pos ht]; exact ⟨n, Or.inl rfl, Or.inl rfl⟩
  rw [if_neg ht]
  split
  rename_i m known heq
  refine ⟨m, ?_, ?_⟩
  · split at heq
    · cases heq; exact Or.inl rfl
    · dsimp only at heq
      split at heq
      · cases heq; exact Or.inr ⟨_, rfl⟩
      · cases heq; exact Or.inl rfl
  · by_cases hk : (!known) = true
    · rw [if_pos hk]; exact Or.inl rfl
    rw [if_neg hk]
    cases hg : getRound m v.round with
    | none => exact Or.inl rfl
    | some rv =>
      refine Or.inr ⟨rv, rfl, ?_⟩
      by_cases ht : v.type = 1
      · simp only [offerVote, if_pos ht]
      · simp only [offerVote, if_neg ht]

variable (timed : Prop) (off : VoteSet.Hist)

/-- the atomic moves of the state machine; `h`, `r` are the arguments of the `enter*` function
    that makes the move -/
inductive Move : Node → Node → Prop
  | panic (n : Node) (site : String) (hs : Emit.panic site ≠ savePanic) : Move n (emit n (.panic site))
  /-- `finalizeCommit` hands an incomplete part set to SaveBlock -/
  | saveIncomplete (n : Node) {b : Name} (hb : n.proposalBlock = some b) (hc : n.partsComplete = false) :
      Move n (emit n savePanic)
  /-- enter step `s` of round `r` signing nothing: `enterPrevoteWait` and `enterPrecommitWait`
      schedule their timeout, `enterPrecommit` may have panicked -/
  | wait (n : Node) (h r : Int) (s : Step) (e : Enters n h r s) (ev : Emit)
      (hev : ev = .timeout h r s ∨ ∃ site, ev = .panic site ∧ ev ≠ savePanic) :
      Move n { emit n ev with round := r, step := s }
  /-- `enterPrevote`: `doPrevote`, then stand in Prevote -/
  | prevote (n : Node) (h r : Int) (e : Enters n h r .prevote) (ht : timed → r = n.round)
      (bid : VoteSet.BlockID) (hb : ∀ L, n.lockedBlock = some L → bid = bidOf L)
      (s : Signer.St) (x : List VoteSet.Vote) (hx : OwnVote n 1 bid x) :
      Move n { signedWith n s x with round := r, step := .prevote }
  /-- `enterPrecommit`, last step of every branch: sign nil, or the block the node has just locked
      on, then stand in Precommit -/
  | precommit (n : Node) (h r : Int) (e : Enters n h r .precommit) (ht : timed → r = n.round)
      (bid : VoteSet.BlockID)
      (hb : bid.hash.isEmpty = false →
        maj23 (prevotes n r) = some bid ∧ n.lockedBlock = some bid.hash ∧ n.lockedRound = r)
      (s : Signer.St) (x : List VoteSet.Vote) (hx : OwnVote n 2 bid x) :
      Move n { signedWith n s x with round := r, step := .precommit }
  /-- `enterPrecommit` on a polka for the locked block (`lb = n.lockedBlock`) or for the valid
      proposal block (`lb = n.proposalBlock`) -/
  | lock (n : Node) (h r : Int) (e : Enters n h r .precommit) (ht : timed → r = n.round)
      (bid : VoteSet.BlockID) (hm : maj23 (prevotes n r) = some bid) (lb : Option Name) (hlb : lb = some bid.hash) :
      Move n { n with lockedRound := r, lockedBlock := lb }
  /-- a polka in round `vr` for something the node is not locked on: in `enterPrecommit` (the
      round being entered, before the precommit) and in `addVote` (a round after the lock's). `hlt` is
      either site's reason why `vr` is later than every precommit the lock covers (`A3Inv.move`):
      `addVote` tests `lockedRound < vr`; `enterPrecommit` does not, but has not yet precommitted in `vr` -/
  | unlock (n : Node) (vr : Int) (bid : VoteSet.BlockID) (hm : maj23 (prevotes n vr) = some bid)
      (hne : hashesTo n.lockedBlock bid.hash = false) (hvr : timed → vr ≤ n.round)
      (hlt : n.lockedRound < vr ∨ (n.round ≤ vr ∧ (n.round = vr → n.step.toNat < Step.precommit.toNat))) :
      Move n (unlock n)
  /-- let go of the block held: for the parts of a block with a +2/3 majority that the node does not
      hold (`pp = some b`), or in a new round (`pp = none`) -/
  | dropBlock (n : Node) (pp : Option Name) :
      Move n { n with proposalBlock := none, proposalParts := pp, partsComplete := false }
  /-- `enterCommit`: the locked block is the one to commit -/
  | adoptLocked (n : Node) {b : Name} (hl : n.lockedBlock = some b) :
      Move n { n with proposalBlock := n.lockedBlock, proposalParts := n.lockedBlock, partsComplete := true }
  | commitStep (n : Node) (cr : Int) (hs : n.step.toNat < Step.commit.toNat) :
      Move n { n with step := .commit, commitRound := cr }
  /-- `finalizeCommit` + `updateToState`: commit and open the next height -/
  | finalize (n : Node) (bid : VoteSet.BlockID) (hm : maj23 (precommits n n.commitRound) = some bid)
      (nv : ValSet.ValSet) (hnv : vsVals nv = vsVals n.vals0) :
      Move n { n with
        out := n.out ++ [.commit n.height (nameOf bid)] ++ [.timeout (n.height + 1) 0 .newHeight],
        height := n.height + 1, round := 0, step := .newHeight, vals := nv, vals0 := nv,
        proposal := none, proposalBlock := none, proposalParts := none, partsComplete := false,
        lockedRound := 0, lockedBlock := none, lastCommit := precommits n n.commitRound, commitRound := -1,
        rounds := [⟨0, VoteSet.new (n.height + 1) 0 1 (vsVals nv), VoteSet.new (n.height + 1) 0 2 (vsVals nv)⟩],
        hvsRound := 0, catchup := [], past := n.past ++ [(n.height, n.rounds)] }
  /-- `enterPropose`: schedule the timeout, propose if it is the node's turn -/
  | propose (n : Node) (h r : Int) (e : Enters n h r .propose) (s : Signer.St) (q : List Msg)
      (hq : ∀ v ok, Msg.vote v ok ∉ q) (f : Nat) (t : List (Name × Int × Bool)) :
      Move n { n with out := n.out ++ [.timeout h r .propose], signer := s, queue := n.queue ++ q, fresh := f,
                      validTab := n.validTab ++ t, round := r, step := .propose }
  /-- `enterNewRound`; the proposer rotation changes accums only -/
  | newRound (n : Node) (r : Int) (hr : n.round ≤ r) (hs : n.round = r → n.step = .newHeight)
      (vals : ValSet.ValSet) (hv : vsVals vals = vsVals n.vals) :
      Move n { n with round := r, step := .newRound, vals := vals }
  /-- `HeightVoteSet.SetRound` and the catch-up rounds of `HeightVoteSet.AddVote`: empty vote sets
      for further rounds -/
  | addRounds (n : Node) (extra : List RoundVotes) (hx : ∀ rv ∈ extra, ∃ q, rv = newRoundVotes n n.height q)
      (hvs : Int) (c : List (String × List Int)) :
      Move n { n with rounds := n.rounds ++ extra, hvsRound := hvs, catchup := c }
  /-- `defaultSetProposal`; a new round forgets the proposal -/
  | proposal (n : Node) (p : Option Proposal) : Move n { n with proposal := p }
  | openParts (n : Node) (b : Name) (hk : ¬ (n.cfg.proposalKeepsParts = true ∧ n.proposalParts.isSome = true)) :
      Move n { n with proposalParts := some b, partsComplete := false }
  /-- `addProposalBlockPart` completes the block -/
  | parts (n : Node) (b : Name) (hp : n.cfg.verifyOwnParts = true → n.proposalParts = some b) :
      Move n { n with proposalBlock := some b, partsComplete := true }
  /-- `HeightVoteSet.AddVote`, once the vote sets of the vote's round are there -/
  | vote (n : Node) (v : VoteSet.Vote) (ok : Bool) (ho : (v, ok) ∈ off) (rv : RoundVotes)
      (hrv : getRound n v.round = some rv) : Move n (offerVote n v ok rv)
  /-- `VoteSet.SetPeerMaj23` -/
  | peerMaj (n : Node) (round : Int) (type : Nat) (peer : String) (bid : VoteSet.BlockID) (rv : RoundVotes)
      (hrv : getRound n round = some rv) :
      Move n { n with rounds := n.rounds.map fun x => if x.round = round then
        (if type = 1 then { rv with prevotes := VoteSet.setPeerMaj23 VoteSet.repaired rv.prevotes peer bid }
         else { rv with precommits := VoteSet.setPeerMaj23 VoteSet.repaired rv.precommits peer bid }) else x }
  | lastCommit (n : Node) (lc : Option VoteSet.VoteSet) : Move n { n with lastCommit := lc }
  | dequeue (n : Node) (m : Msg) (rest : List Msg) (hq : n.queue = m :: rest) : Move n { n with queue := rest }

inductive Moves : Node → Node → Prop
  | refl (n : Node) : Moves n n
  | tail {a b c : Node} : Moves a b → Move timed off b c → Moves a c

variable {timed off}

theorem Moves.one {a b : Node} (m : Move timed off a b) : Moves timed off a b := .tail (.refl a) m

theorem Moves.trans {a b c : Node} (x : Moves timed off a b) (y : Moves timed off b c) : Moves timed off a c := by
  induction y with
  | refl => exact x
  | tail _ m ih => exact .tail ih m

theorem Moves.preserves {P : Node → Prop} (step : ∀ a b, Move timed off a b → P a → P b) {a b : Node}
    (x : Moves timed off a b) (pa : P a) : P b := by
  induction x with
  | refl => exact pa
  | tail _ m ih => exact step _ _ m ih

/-- the walk over an `if` of the code: one sequence of moves per branch; unification finds the
    condition. (`split` is slow on a goal that holds a whole handler: in `moves_addVote` one `split`
    on a test of the unfolded `addVote` took 10,000k heartbeats, the same test through this lemma 100k.) -/
theorem Moves.ite {c : Prop} [Decidable c] {a x y : Node} (hx : c → Moves timed off a x) (hy : ¬ c → Moves timed off a y) :
    Moves timed off a (if c then x else y) := iteInduction hx hy

/-- a test of the code that leaves the node as it is -/
theorem Moves.unless {c : Prop} [Decidable c] {a y : Node} (hy : ¬ c → Moves timed off a y) :
    Moves timed off a (if c then a else y) := .ite (fun _ => .refl a) hy

theorem hashesTo_some {blk : Option Name} {h : Bytes} (hh : hashesTo blk h = true) : blk = some h := by
  unfold hashesTo at hh
  split at hh
  · rename_i b
    simp at hh
    rw [hh.2]
  · simp at hh

theorem hashesTo_nil {blk : Option Name} {h : Bytes} (hh : h.isEmpty = true) : hashesTo blk h = false := by
  unfold hashesTo
  split <;> simp [hh]

theorem hashesTo_iff {blk : Option Name} {h : Bytes} (hne : h.isEmpty = false) : hashesTo blk h = true ↔ blk = some h :=
  ⟨hashesTo_some, fun e => by rw [e]; simp [hashesTo, hne]⟩

theorem bidOf_hash (b : Name) : (bidOf b).hash = b := by
  unfold bidOf
  split
  · exact (List.isEmpty_iff.mp ‹_›).symm
  · rfl

theorem vsVals_incrementAccum (vs : ValSet.ValSet) (k : Nat) :
    vsVals (ValSet.incrementAccum ValSet.repaired vs k) = vsVals vs := by
  rw [ValSet.incrementAccum_repaired]
  exact ValSet.iter_incrOnce_map _ (fun _ _ => rfl) vs k

theorem moves_enterPrevote (n : Node) (h r : Int) (ht : timed → n.height = h → r ≤ n.round) :
    Moves timed off n (enterPrevote n h r) := by
  unfold enterPrevote
  refine .unless fun hg => ?_
  have e := Enters.of_guard hg
  obtain ⟨bid, hb, hd⟩ := doPrevote_eq n
  obtain ⟨s, x, hx, hs⟩ := signAddVote_eq n 1 bid
  dsimp only
  rw [hd, hs]
  exact .one (.prevote n h r e (fun t => Int.le_antisymm (ht t e.height) e.round) bid (fun L hL => by rw [hL] at hb; exact hb) s x hx)

theorem moves_enterPrevoteWait (n : Node) (h r : Int) : Moves timed off n (enterPrevoteWait n h r) := by
  unfold enterPrevoteWait
  exact .unless fun hg => .ite (fun _ => .one (.panic n _ (by decide))) fun _ =>
    .one (.wait n h r _ (Enters.of_guard hg) _ (Or.inl rfl))

theorem moves_enterPrecommitWait (n : Node) (h r : Int) : Moves timed off n (enterPrecommitWait n h r) := by
  unfold enterPrecommitWait
  exact .unless fun hg => .ite (fun _ => .one (.panic n _ (by decide))) fun _ =>
    .one (.wait n h r _ (Enters.of_guard hg) _ (Or.inl rfl))

theorem moves_enterPropose (n : Node) (h r : Int) : Moves timed off n (enterPropose n h r) := by
  unfold enterPropose
  refine .unless fun hg => ?_
  extract_lets n1 n2 n3
  have h2 : ∃ s q f t, (∀ v ok, Msg.vote v ok ∉ q) ∧
      n2 = { n1 with signer := s, queue := n1.queue ++ q, fresh := f, validTab := n1.validTab ++ t } := by
    unfold n2
    split
    · split
      · obtain ⟨s, q, f, t, hq, e⟩ := decideProposal_eq n1 h r
        refine ⟨s, q, f, t, fun v ok hv => ?_, e⟩
        rcases hq with rfl | ⟨_, _, rfl, _⟩ <;> simp at hv
      · exact ⟨n1.signer, [], n1.fresh, [], by simp, by simp⟩
    · exact ⟨n1.signer, [], n1.fresh, [], by simp, by simp⟩
  obtain ⟨s, q, f, t, hq, h2⟩ := h2
  have m3 : Moves timed off n n3 := by
    unfold n3
    rw [h2]
    exact .one (.propose n h r (Enters.of_guard hg) s q hq f t)
  exact .ite (fun _ => m3.trans (moves_enterPrevote n3 h n3.round fun _ _ => Int.le_refl _)) fun _ => m3

theorem moves_setRound (n : Node) (r : Int) : Moves timed off n (setRound n r) := by
  unfold setRound
  refine .ite (fun _ => .one (.panic n "SetRound" (by decide))) fun _ => .one (.addRounds n _ ?_ r n.catchup)
  intro rv hrv
  obtain ⟨q, _, rfl⟩ := List.mem_map.mp hrv
  exact ⟨q, rfl⟩

theorem moves_enterNewRound (n : Node) (h r : Int) : Moves timed off n (enterNewRound n h r) := by
  unfold enterNewRound
  refine .unless fun hg => ?_
  extract_lets vals n1 n2 n3
  have m1 : Moves timed off n n1 := by
    refine .one (.newRound n r (Int.not_lt.mp fun x => hg (Or.inr (Or.inl x)))
      (fun e => Classical.not_not.mp fun x => hg (Or.inr (Or.inr ⟨e, x⟩))) vals ?_)
    unfold vals
    split
    · exact vsVals_incrementAccum _ _
    · rfl
  have m2 : Moves timed off n1 n2 := .unless fun _ =>
    (Moves.one (.proposal n1 none)).trans (.one (.dropBlock _ none))
  exact ((m1.trans m2).trans (moves_setRound n2 (r + 1))).trans (moves_enterPropose n3 h r)

theorem moves_enterPrecommit (n : Node) (h r : Int) (ht : timed → n.height = h → r ≤ n.round) :
    Moves timed off n (enterPrecommit n h r) := by
  unfold enterPrecommit
  refine .unless fun hg => ?_
  have e := Enters.of_guard hg
  have hr : timed → r = n.round := fun t => Int.le_antisymm (ht t e.height) e.round
  -- the last step of every branch, from a state `m` that differs from `n` in the lock and the parts
  have fin : ∀ (m : Node) (bid : VoteSet.BlockID), m.height = n.height → m.round = n.round → m.step = n.step →
      (bid.hash.isEmpty = false →
        maj23 (prevotes m r) = some bid ∧ m.lockedBlock = some bid.hash ∧ m.lockedRound = r) →
      Moves timed off m { signAddVote m 2 bid with round := r, step := .precommit } := by
    intro m bid e1 e2 e3 hb
    obtain ⟨s, x, hx, hs⟩ := signAddVote_eq m 2 bid
    rw [hs]
    exact .one (.precommit m h r ⟨e1.trans e.height, e2 ▸ e.round, by rw [e2, e3]; exact e.step⟩
      (by rw [e2]; exact hr) bid hb s x hx)
  have nil : ∀ m : Node, (bidOf []).hash.isEmpty = false →
      maj23 (prevotes m r) = some (bidOf []) ∧ m.lockedBlock = some (bidOf []).hash ∧ m.lockedRound = r :=
    fun _ x => by simp [bidOf] at x
  have loud : ∀ site : String, Emit.panic site ≠ savePanic →
      Moves timed off n { emit n (.panic site) with round := r, step := .precommit } :=
    fun site hs => .one (.wait n h r _ e _ (Or.inr ⟨site, rfl, hs⟩))
  dsimp only
  split
  · exact fin n _ rfl rfl rfl (nil _)
  · rename_i bid hm
    have here : n.round ≤ r ∧ (n.round = r → n.step.toNat < Step.precommit.toNat) := ⟨e.round, e.step⟩
    have unl : hashesTo n.lockedBlock bid.hash = false → Moves timed off n (unlock n) := fun hne =>
      .one (.unlock n r bid hm hne (fun t => Int.le_of_eq (hr t)) (Or.inr here))
    refine .ite (fun _ => loud _ (by decide)) fun _ => .ite (fun hnil => ?_) fun hne => ?_
    · by_cases hl : n.lockedBlock.isSome = true
      · rw [if_pos hl]
        exact (unl (hashesTo_nil hnil)).trans (fin (unlock n) _ rfl rfl rfl (nil _))
      · rw [if_neg hl]
        exact fin n _ rfl rfl rfl (nil _)
    · have hne : bid.hash.isEmpty = false := by simpa using hne
      -- a polka for the locked block renews the lock
      refine .ite (fun hlk => ?_) fun hnlk => ?_
      · exact (Moves.one (.lock n h r e hr bid hm n.lockedBlock (hashesTo_some hlk))).trans
          (fin { n with lockedRound := r } bid rfl rfl rfl fun _ => ⟨hm, hashesTo_some hlk, rfl⟩)
      -- one for the proposal block locks it, if it is valid
      refine .ite (fun hpb => ?_) fun _ => ?_
      · refine .ite (fun _ => loud _ (by decide)) fun _ => ?_
        exact (Moves.one (.lock n h r e hr bid hm n.proposalBlock (hashesTo_some hpb))).trans
          (fin { n with lockedRound := r, lockedBlock := n.proposalBlock } bid rfl rfl rfl
            fun _ => ⟨hm, hashesTo_some hpb, rfl⟩)
      -- one for a block the node does not hold releases the lock and asks for that block's parts
      · have mu := unl (by simpa using hnlk)
        by_cases hp : (unlock n).proposalParts = some (nameOf bid)
        · rw [if_pos hp]
          exact mu.trans (fin (unlock n) _ rfl rfl rfl (nil _))
        · rw [if_neg hp]
          exact (mu.trans (.one (.dropBlock (unlock n) (some (nameOf bid))))).trans (fin _ _ rfl rfl rfl (nil _))

theorem moves_finalizeCommit (n : Node) (h : Int) : Moves timed off n (finalizeCommit n h) := by
  unfold finalizeCommit
  refine .unless fun hg => ?_
  split
  · rename_i bid b hm hb
    refine .ite (fun _ => .one (.panic n _ (by decide))) fun _ => ?_
    refine .ite (fun _ => .one (.panic n _ (by decide))) fun hbn => ?_
    refine .ite (fun _ => .one (.panic n _ (by decide))) fun _ => ?_
    refine .ite (fun hc => .one (.saveIncomplete n hb (by simpa using hc))) fun _ => ?_
    cases Classical.not_not.mp fun x => hg (Or.inl x)
    cases Classical.not_not.mp hbn
    exact .one (.finalize n bid hm _ (vsVals_incrementAccum _ _))
  · exact .one (.panic n _ (by decide))

theorem moves_tryFinalizeCommit (n : Node) (h : Int) : Moves timed off n (tryFinalizeCommit n h) := by
  unfold tryFinalizeCommit
  refine .ite (fun _ => .one (.panic n _ (by decide))) fun _ => ?_
  split
  · exact .refl n
  · exact .unless fun _ => .unless fun _ => moves_finalizeCommit n h

theorem moves_enterCommit (n : Node) (h cr : Int) : Moves timed off n (enterCommit n h cr) := by
  unfold enterCommit
  refine .unless fun hg => ?_
  split
  · exact .one (.panic n _ (by decide))
  · extract_lets n1 n2 n3
    have m1 : Moves timed off n n1 ∧ n1.step = n.step := by
      unfold n1
      split
      · exact ⟨.one (.adoptLocked n (hashesTo_some ‹_›)), rfl⟩
      · exact ⟨.refl n, rfl⟩
    have m2 : Moves timed off n1 n2 ∧ n2.step = n1.step := by
      unfold n2
      split
      · exact ⟨.one (.dropBlock n1 _), rfl⟩
      · exact ⟨.refl n1, rfl⟩
    have m3 : Moves timed off n2 n3 :=
      .one (.commitStep n2 cr (by
        rw [m2.2, m1.2]; exact Nat.lt_of_not_le fun x => hg (Or.inr x)))
    exact ((m1.1.trans m2.1).trans m3).trans (moves_tryFinalizeCommit n3 h)

theorem moves_setProposal (n : Node) (p : Proposal) (signer : Nat) (bad : Bool) :
    Moves timed off n (setProposal n p signer bad) := by
  unfold setProposal
  -- the five tests that drop a proposal
  refine .unless fun _ => .unless fun _ => .unless fun _ => .unless fun _ => .unless fun _ => ?_
  refine .ite (fun _ => .one (.proposal n (some p))) fun hk => ?_
  exact (Moves.one (.proposal n (some p))).trans (.one (.openParts { n with proposal := some p } p.block hk))

theorem moves_addParts (n : Node) (height : Int) (block : Name) (own : Bool) :
    Moves timed off n (addParts n height block own) := by
  unfold addParts
  refine .unless fun _ => .unless fun _ => .unless fun _ => .unless fun hp => ?_
  extract_lets m
  have mm : Moves timed off n m :=
    .one (.parts n block fun hv => Classical.not_not.mp fun x => hp ⟨x, Or.inl hv⟩)
  exact .ite (fun _ => mm.trans (moves_enterPrevote m height m.round fun _ _ => Int.le_refl _)) fun _ =>
    .ite (fun _ => mm.trans (moves_tryFinalizeCommit m height)) fun _ => mm

theorem moves_hvsAddVote (n : Node) (v : VoteSet.Vote) (sigok : Bool) (peer : String) (ho : (v, sigok) ∈ off) :
    Moves timed off n (hvsAddVote n v sigok peer).1 := by
  obtain ⟨m, hm, e⟩ := hvsAddVote_eq n v sigok peer
  have s : Moves timed off n m := by
    rcases hm with rfl | ⟨c, rfl⟩
    · exact .refl _
    · exact .one (.addRounds n [_] (fun rv hrv => ⟨v.round, List.mem_singleton.mp hrv⟩) n.hvsRound c)
  rcases e with e | ⟨rv, hrv, e⟩
  · rw [e]; exact s
  · rw [e]; exact s.trans (.one (.vote m v sigok ho rv hrv))

theorem moves_setPeerMaj23 (n : Node) (height round : Int) (type : Nat) (peer : String) (bid : VoteSet.BlockID) :
    Moves timed off n (setPeerMaj23 n height round type peer bid) := by
  unfold setPeerMaj23
  refine .unless fun _ => .unless fun _ => ?_
  split
  · exact .refl n
  · rename_i rv hrv
    exact .one (.peerMaj n round type peer bid rv hrv)

theorem enterPrevote_round (n : Node) (h r : Int) (e : n.round = r) : (enterPrevote n h r).round = r := by
  unfold enterPrevote
  split
  · exact e
  · rfl

theorem enterPropose_round (n : Node) (h r : Int) (e : n.round = r) : (enterPropose n h r).round = r := by
  unfold enterPropose
  split
  · exact e
  · extract_lets n1 n2 n3
    split
    · exact enterPrevote_round n3 h n3.round rfl
    · rfl

theorem setRound_round (n : Node) (r : Int) : (setRound n r).round = n.round := by
  unfold setRound
  split <;> rfl

/-- why the vote `addVote` goes on to sign after `enterNewRound` is for the round the node stands in:
    the hypothesis `ht` of `moves_enterPrevote` and `moves_enterPrecommit` -/
theorem le_round_enterNewRound (n : Node) (h r : Int) :
    (enterNewRound n h r).height = h → r ≤ (enterNewRound n h r).round := by
  unfold enterNewRound
  split
  · rename_i hg
    intro hh
    rcases hg with hg | hg | hg
    · exact absurd hh hg
    · exact Int.le_of_lt hg
    · rw [hg.1]; exact Int.le_refl _
  · extract_lets vals n1 n2 n3
    intro _
    have h2 : n2.round = r := by
      unfold n2
      split <;> rfl
    have h3 : n3.round = r := by rw [show n3.round = n2.round from setRound_round _ _]; exact h2
    rw [enterPropose_round n3 h r h3]
    exact Int.le_refl _

theorem moves_addVote (n : Node) (v : VoteSet.Vote) (sigok : Bool) (peer : String) (ho : (v, sigok) ∈ off) :
    Moves timed off n (addVote n v sigok peer) := by
  unfold addVote
  refine .ite (fun _ => .unless fun _ => ?_) fun _ => .ite (fun _ => ?_) fun _ => .refl n
  · split
    · exact .unless fun _ => .one (.panic n _ (by decide))
    · split
      dsimp only
      have ml := Moves.one (Move.lastCommit (timed := timed) (off := off) n (some ‹_›))
      exact .ite (fun _ => ml.trans (moves_enterNewRound _ _ _)) fun _ => ml
  · have s0 := moves_hvsAddVote (timed := timed) n v sigok peer ho
    generalize hvsAddVote n v sigok peer = res at s0 ⊢
    obtain ⟨m, o⟩ := res
    dsimp -zeta only at s0 ⊢
    refine .ite (fun _ => s0) fun _ => .ite (fun _ => ?_) fun _ => ?_
    · -- a prevote: the unlock on a polka for something else, then the round's majority decides
      extract_lets pv m1
      have s1 : Moves timed off m m1 := by
        refine .ite (fun hc => ?_) fun _ => .refl m
        split
        · rename_i b hb
          exact .ite (fun hne => .one (.unlock m v.round b hb (by simpa using hne) (fun _ => hc.2.2) (Or.inl hc.2.1)))
            fun _ => .refl m
        · exact .refl m
      clear_value m1
      have l1 := s0.trans s1
      have hr := fun (_ : timed) => le_round_enterNewRound m1 n.height v.round
      refine .ite (fun _ => ?_) fun _ => ?_
      · -- +2/3 of anything in a round the node has not left: enter it; precommit on a polka, else wait
        have l2 := l1.trans (moves_enterNewRound m1 n.height v.round)
        refine .ite (fun _ => l2.trans (moves_enterPrecommit _ _ _ hr)) fun _ => ?_
        exact l2.trans ((moves_enterPrevote _ _ _ hr).trans (moves_enterPrevoteWait _ _ _))
      · split
        · exact .ite (fun _ => l1.trans (moves_enterPrevote _ _ _ fun _ _ => Int.le_refl _)) fun _ => l1
        · exact l1
    · have hr := fun (_ : timed) => le_round_enterNewRound m n.height v.round
      dsimp only
      split
      · refine .ite (fun _ => s0.trans (moves_enterNewRound _ _ _)) fun _ => ?_
        have lc := s0.trans ((moves_enterNewRound m n.height v.round).trans
          ((moves_enterPrecommit _ n.height v.round hr).trans (moves_enterCommit _ n.height v.round)))
        exact .ite (fun _ => lc.trans (moves_enterNewRound _ _ _)) fun _ => lc
      · exact .ite (fun _ => s0.trans ((moves_enterNewRound _ _ _).trans
          ((moves_enterPrecommit _ _ _ hr).trans (moves_enterPrecommitWait _ _ _)))) fun _ => s0

theorem moves_handleTimeout (n : Node) (h r : Int) (s : Step) (hw : timed → h = n.height → r ≤ n.round) :
    Moves timed off n (handleTimeout n h r s) := by
  unfold handleTimeout
  refine .unless fun _ => ?_
  split
  · exact moves_enterNewRound _ _ _
  · exact moves_enterPrevote _ _ _ fun t e => hw t e.symm
  · exact moves_enterPrecommit _ _ _ fun t e => hw t e.symm
  · exact moves_enterNewRound _ _ _
  · exact .one (.panic n _ (by decide))

theorem moves_handleMsg (n : Node) (m : Msg) (peer : String) (ho : ∀ x ∈ offeredMsg m, x ∈ off) :
    Moves timed off n (handleMsg n m peer) := by
  unfold handleMsg
  split
  · exact moves_setProposal _ _ _ _
  · exact moves_addParts _ _ _ _
  · exact moves_addVote _ _ _ _ (ho _ (List.mem_singleton.mpr rfl))

theorem moves_stepIn (n : Node) (i : In) (hw : timed → WellTimed n i) (ho : ∀ x ∈ offered n i, x ∈ off) :
    Moves timed off n (stepIn n i) := by
  cases i with
  | msg m peer => exact moves_handleMsg _ _ _ ho
  | own =>
    show Moves timed off n (match n.queue with | [] => n | m :: rest => handleMsg { n with queue := rest } m "")
    cases hq : n.queue with
    | nil => exact .refl n
    | cons m rest =>
      have ho : ∀ x ∈ offeredMsg m, x ∈ off := by simpa [offered, hq] using ho
      exact (Moves.one (.dequeue n m rest hq)).trans (moves_handleMsg _ _ _ ho)
  | timeout h r s => exact moves_handleTimeout _ _ _ _ hw
  | maj23 h r t peer bid => exact moves_setPeerMaj23 _ _ _ _ _ _

/-- at `timed := False` a move promises nothing about the round a vote is signed in (`ht`, `hvr` are
    vacuous), so a step lemma that holds for every `timed` needs no hypothesis on the timeouts; one that
    reads `ht` is for `Move True` and needs `WellTimed`: `stepIn_keeps_timed` -/
theorem stepIn_keeps {P : Node → Prop} (h : ∀ {off : VoteSet.Hist} {a b : Node}, Move False off a b → P a → P b)
    (n : Node) (i : In) (p : P n) : P (stepIn n i) :=
  (moves_stepIn (timed := False) n i (fun f => f.elim) fun _ h => h).preserves (fun _ _ => h) p

theorem run_keeps {P : Node → Prop} (h : ∀ {off : VoteSet.Hist} {a b : Node}, Move False off a b → P a → P b)
    (ins : List In) : ∀ n : Node, P n → P (ins.foldl stepIn n) := by
  induction ins with
  | nil => exact fun _ p => p
  | cons i rest ih => exact fun n p => ih _ (stepIn_keeps h n i p)

theorem stepIn_keeps_timed {P : Node → Prop} (h : ∀ {off : VoteSet.Hist} {a b : Node}, Move True off a b → P a → P b)
    (n : Node) (i : In) (p : P n) (hw : WellTimed n i) : P (stepIn n i) :=
  (moves_stepIn n i (fun _ => hw) fun _ h => h).preserves (fun _ _ => h) p

theorem run_keeps_timed {P : Node → Prop} (h : ∀ {off : VoteSet.Hist} {a b : Node}, Move True off a b → P a → P b)
    (ins : List In) : ∀ n : Node, P n → RunOK n ins → P (ins.foldl stepIn n) := by
  induction ins with
  | nil => exact fun _ p _ => p
  | cons i rest ih => exact fun n p hr => ih _ (stepIn_keeps_timed h n i p hr.1) hr.2

end AnnVerif.Node
