/-
  The root commits to the content: two well-formed tries (no empty value, encodings within the
  decoder's sizes) with the same root hash are the same tree - or the hash function collides on the
  encodings of two of their nodes (the roots and the nodes stored by hash: `L` below).
  Together with `canon` of TrieCanon.lean (same content => same tree): equal roots <=> equal content, up
  to collisions.
-/
import AnnVerif.Lemmas.TrieProof
namespace AnnVerif.Trie
open AnnVerif.Rlp

section
variable (H : Bytes → Bytes)

/-- a hashed reference is a 32-byte string, an embedded one a list or (for no node) the empty string:
    equal references are of the same kind, and refer to equal encodings if `H` does not collide on the two -/
theorem ref_inj (Hlen : ∀ x, (H x).length = 32) {L : List Bytes} (hnc : ¬ CollIn H L) {c1 c2 : Node} (w1 : WF c1)
    (w2 : WF c2) (s1 : SmallT H c1) (s2 : SmallT H c2) (m1 : here H c1 ⊆ L) (m2 : here H c2 ⊆ L)
    (he : ref H c1 = ref H c2) : enc H c1 = enc H c2 := by
  have kind : ∀ c, WF c → ∀ x, enc H c ≠ .str (H x) := by
    intro c wc x e
    rcases empty_or c with rfl | hn
    · rw [enc] at e
      injection e with e
      have := Hlen x; rw [← e] at this; cases this
    · obtain ⟨l, hl⟩ := enc_list H wc hn
      rw [hl] at e; cases e
  rw [ref_eq, ref_eq] at he
  rw [here] at m1 m2
  split at he <;> split at he
  · injection he with he
    rw [if_pos ‹_›] at m1 m2
    exact encode_inj (small_enc H w1 s1) (small_enc H w2 s2)
      (hash_inj H hnc (m1 (List.mem_singleton_self _)) (m2 (List.mem_singleton_self _)) he)
  · exact absurd he.symm (kind c2 w2 _)
  · exact absurd he (kind c1 w1 _)
  · exact he

theorem slot_ref_inj {a b : Node} (ha : SlotVal a) (hb : SlotVal b) (na : getN a [] ≠ some [])
    (nb : getN b [] ≠ some []) (h : ref H a = ref H b) : a = b := by
  rcases slotVal_cases ha with rfl | ⟨v, rfl⟩ <;> rcases slotVal_cases hb with rfl | ⟨w, rfl⟩
  · rfl
  · rw [ref_empty, ref_value] at h
    cases h
    exact absurd rfl nb
  · rw [ref_empty, ref_value] at h
    cases h
    exact absurd rfl na
  · rw [ref_value, ref_value] at h
    cases h
    rfl

theorem enc_short_inj {k1 k2 : Key} {c1 c2 : Node} (h1 : WF (.short k1 c1)) (h2 : WF (.short k2 c2))
    (he : enc H (.short k1 c1) = enc H (.short k2 c2)) : k1 = k2 ∧ ref H c1 = ref H c2 := by
  rw [enc_short, enc_short] at he
  injection he with he
  injection he with hk hr
  injection hk with hk
  injection hr with hr _
  exact ⟨hexToCompact_injective k1 k2 (wf_short_key h1) (wf_short_key h2) hk, hr⟩

theorem enc_inj (Hlen : ∀ x, (H x).length = 32) {L : List Bytes} (hnc : ¬ CollIn H L) : ∀ t1, WF t1 → ∀ t2, WF t2 →
    NoEmpty t1 → NoEmpty t2 → SmallT H t1 → SmallT H t2 → allBelow H t1 ⊆ L → allBelow H t2 ⊆ L →
    enc H t1 = enc H t2 → t1 = t2 := by
  have short_full : ∀ (k : Key) (c : Node) (cs : Children), WF (.full cs) →
      enc H (.short k c) ≠ enc H (.full cs) := by
    intro k c cs h he
    rw [enc_short, enc_full] at he
    injection he with he
    have hl := congrArg List.length he
    rw [encChildren_length, List.length_cons, List.length_cons, List.length_nil] at hl
    have := wfc_len h
    omega
  refine wf_induction ?_ ?_ ?_ ?_
  · intro t2 h2 _ _ _ _ _ _ he
    rcases empty_or t2 with rfl | hn
    · rfl
    · obtain ⟨l, hl⟩ := enc_list H h2 hn
      rw [hl, enc] at he; cases he
  · intro k1 w1 hk1 t2 h2 _ _ _ _ _ _ he
    cases t2 with
    | empty => rw [enc_short, enc] at he; cases he
    | value _ => exact h2.elim
    | full cs2 => exact absurd he (short_full k1 _ cs2 h2)
    | short k2 c2 =>
      obtain ⟨rfl, hr⟩ := enc_short_inj H (wf_leaf.mpr hk1) h2 he
      rcases wf_short h2 with ⟨_, w2, rfl⟩ | ⟨hk2, _, _, _⟩
      · rw [ref_value, ref_value] at hr
        injection hr with hr
        rw [hr]
      · exact absurd hk1 (nk_not_tk hk2.2)
  · intro k1 cs1 hk1 hc1 ih t2 h2 v1 v2 s1 s2 m1 m2 he
    have h1 : WF (.short k1 (.full cs1)) := ⟨hk1, hc1⟩
    cases t2 with
    | empty => rw [enc_short, enc] at he; cases he
    | value _ => exact h2.elim
    | full cs2 => exact absurd he (short_full k1 _ cs2 h2)
    | short k2 c2 =>
      obtain ⟨rfl, hr⟩ := enc_short_inj H h1 h2 he
      rcases wf_short h2 with ⟨hk2, _, _⟩ | ⟨_, cs2, rfl, hc2⟩
      · exact absurd hk2 (nk_not_tk hk1.2)
      · rw [allBelow, List.append_subset] at m1 m2
        rw [ih (.full cs2) hc2 (v1.below h1) (v2.below h2) s1.2 s2.2 m1.2 m2.2
          (ref_inj H Hlen hnc (wf_full.mpr hc1) (wf_full.mpr hc2) s1.2 s2.2 m1.1 m2.1 hr)]
  · intro cs1 h1 ih t2 h2 v1 v2 s1 s2 m1 m2 he
    cases t2 with
    | empty => rw [enc_full, enc] at he; cases he
    | value _ => exact h2.elim
    | short k2 c2 => exact absurd he.symm (short_full k2 c2 cs1 h1)
    | full cs2 =>
      rw [enc_full, enc_full] at he
      rw [allBelow] at m1 m2
      injection he with he
      have l1 := wfc_len h1
      have l2 := wfc_len h2
      have hrefs : ∀ i, i < 17 → ref H (cs1.get i) = ref H (cs2.get i) := fun i hi => by
        rw [← encChildren_getD H cs1 i (.str []) (by omega), he, encChildren_getD H cs2 i _ (by omega)]
      rw [full_ext h1 h2
        (fun sv1 sv2 => slot_ref_inj H sv1 sv2 (v1 [16] tk_term) (v2 [16] tk_term) (hrefs 16 (by omega)))
        (fun i hi w1 w2 =>
          have c1 := smallc_get H cs1 i s1.2
          have c2 := smallc_get H cs2 i s2.2
          have b1 := List.append_subset.mp fun e h => m1 (allBelowC_get H cs1 i e h)
          have b2 := List.append_subset.mp fun e h => m2 (allBelowC_get H cs2 i e h)
          ih i hi (cs2.get i) w2 (v1.child hi) (v2.child hi) c1 c2 b1.2 b2.2
            (ref_inj H Hlen hnc w1 w2 c1 c2 b1.1 b2.1 (hrefs i (by omega))))]

theorem root_commits (Hlen : ∀ x, (H x).length = 32) (t1 t2 : Node) (h1 : WF t1) (h2 : WF t2)
    (v1 : NoEmpty t1) (v2 : NoEmpty t2) (s1 : SmallT H t1) (s2 : SmallT H t2)
    (he : rootHash H t1 = rootHash H t2) :
    t1 = t2 ∨ CollIn H (Rlp.encode (enc H t1) :: allBelow H t1 ++ Rlp.encode (enc H t2) :: allBelow H t2) := by
  refine Classical.or_iff_not_imp_right.mpr fun hnc => ?_
  rw [rootHash_eq, rootHash_eq] at he
  exact enc_inj H Hlen hnc t1 h1 t2 h2 v1 v2 s1 s2 (fun _ h => by simp [h]) (fun _ h => by simp [h])
    (encode_inj (small_enc H h1 s1) (small_enc H h2 s2) (hash_inj H hnc (by simp) (by simp) he))

end

end AnnVerif.Trie
