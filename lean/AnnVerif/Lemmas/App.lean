/-
  The application wrapper (Model/App.lean) through three facts: the accounts are a map
  (`getAcc_setAcc`); all `applyTx` can do, as one rule (`applyTx_cases`); and what follows for
  sequences in every variant that has the relevant repair: a transaction (sender, nonce) takes effect
  at most once where the nonce of key-value transactions is checked (`timesApplied_le`, C09 A4), and
  restarts between blocks change nothing where the commit clears the key-value records
  (`run_filter_isBlk`, C05 D2).
-/
import AnnVerif.Model.App
namespace AnnVerif.App

theorem getAcc_setAcc (as : Accounts) (a : Account) (i : Nat) :
    getAcc (setAcc as a) i = if i = a.id then a else getAcc as i := by
  unfold getAcc setAcc
  by_cases h : as.any (fun x => decide (x.id = a.id)) = true
  · -- replacing the account keeps every id, so the search stops where it stopped before
    have hp : (fun x : Account => decide (x.id = i)) ∘ (fun x => if x.id = a.id then a else x) =
        fun x => decide (x.id = i) := by
      funext x
      show decide ((if x.id = a.id then a else x).id = i) = decide (x.id = i)
      by_cases e : x.id = a.id
      · rw [if_pos e, e]
      · rw [if_neg e]
    rw [if_pos h, List.find?_map, hp]
    cases hf : as.find? (fun x => decide (x.id = i)) with
    | none =>
      have hi : i ≠ a.id := by
        rintro rfl
        obtain ⟨x, hx, hpx⟩ := List.any_eq_true.1 h
        exact List.find?_eq_none.1 hf x hx hpx
      rw [if_neg hi]
      rfl
    | some x =>
      have hx : x.id = i := by simpa using List.find?_some hf
      subst hx
      rfl
  · -- `a` is appended to a list in which the search for `a.id` fails
    have hn : as.find? (fun x => decide (x.id = a.id)) = none :=
      List.find?_eq_none.2 fun x hx hpx => h (List.any_eq_true.2 ⟨x, hx, hpx⟩)
    rw [if_neg h, List.find?_append]
    by_cases hi : i = a.id
    · subst hi
      simp [hn]
    · have : ¬ a.id = i := fun e => hi e.symm
      simp [List.find?, this, hi]

def nonceOf (as : Accounts) (i : Nat) : Nat := (getAcc as i).nonce

theorem nonceOf_setAcc (as : Accounts) (j n b i : Nat) :
    nonceOf (setAcc as ⟨j, n, b⟩) i = if i = j then n else nonceOf as i := by
  unfold nonceOf
  rw [getAcc_setAcc]
  split <;> rfl

theorem nonceOf_setAcc_keep (as : Accounts) (j b i : Nat) :
    nonceOf (setAcc as ⟨j, nonceOf as j, b⟩) i = nonceOf as i :=
  (nonceOf_setAcc as j _ b i).trans (ite_eq_right_iff.2 fun e => e ▸ rfl)

/-- balances are not spoken of -/
theorem applyTx_cases (P : Accounts × Outcome → Prop) (cfg : Cfg) (as : Accounts) (t : Tx)
    (invalid : P (as, .invalid))
    (panic : cfg.nilTxGuard = false ∨ cfg.adminInputGuard = false → P (as, .panic))
    (applied : ∀ s n k v g p z nz as' o, t = .signed s n k v g p z nz → (o = .applied ∨ ∃ r, o = .kvApplied r) →
      (n = nonceOf as s ∨ cfg.kvNonceCheck = false) →
      (∀ i, nonceOf as' i = if i = s then nonceOf as s + 1 else nonceOf as i) → P (as', o)) :
    P (applyTx cfg as t) := by
  cases t with
  | empty => exact iteInduction (motive := P) (fun _ => invalid) fun h => panic (Or.inl (by simpa using h))
  | garbage => exact invalid
  | badSig => exact invalid
  | signed s n k v g p z nz =>
    cases k with
    | kv key val ok =>
      refine iteInduction (motive := P) (fun _ => invalid) fun _ => ?_
      refine iteInduction (fun _ => invalid) fun h => ?_
      refine applied s n _ v g p z nz _ _ rfl (Or.inr ⟨_, rfl⟩) ?_ fun i => nonceOf_setAcc as s _ _ i
      cases hc : cfg.kvNonceCheck
      · exact Or.inr rfl
      · exact Or.inl (Classical.not_not.1 fun hn => h ⟨hc, hn⟩)
    | call to bad =>
      refine iteInduction (motive := P) (fun _ => invalid) fun hn => ?_
      refine iteInduction (fun _ => invalid) fun _ => ?_
      refine iteInduction (fun _ => invalid) fun _ => ?_
      refine iteInduction (fun _ => invalid) fun _ => ?_
      refine iteInduction (fun h => panic (Or.inr (by simpa using h.2))) fun _ => ?_
      refine applied s n _ v g p z nz _ _ rfl (Or.inl rfl) (Or.inl (Classical.not_not.1 hn)) fun i => ?_
      -- the recipient is written back with the nonce it has, also when it is the sender
      exact (nonceOf_setAcc_keep _ to _ i).trans (nonceOf_setAcc as s _ _ i)
    | create =>
      refine iteInduction (motive := P) (fun _ => invalid) fun hn => ?_
      refine iteInduction (fun _ => invalid) fun _ => ?_
      refine iteInduction (fun _ => invalid) fun _ => ?_
      refine iteInduction (fun _ => invalid) fun _ => ?_
      exact applied s n _ v g p z nz _ _ rfl (Or.inl rfl) (Or.inl (Classical.not_not.1 hn)) fun i =>
        nonceOf_setAcc as s _ _ i

end AnnVerif.App

namespace AnnVerif.C09
open AnnVerif AnnVerif.App

def isApplied : Outcome → Bool
  | .applied => true
  | .kvApplied _ => true
  | _ => false

def isSN (s n : Nat) : Tx → Bool
  | .signed s' n' _ _ _ _ _ _ => s' == s && n' == n
  | _ => false

def timesApplied (cfg : Cfg) (s n : Nat) : Accounts → List Tx → Nat
  | _, [] => 0
  | as, t :: ts =>
    (if isSN s n t && isApplied (applyTx cfg as t).2 then 1 else 0) + timesApplied cfg s n (applyTx cfg as t).1 ts

theorem applyTx_nonce (cfg : Cfg) (hk : cfg.kvNonceCheck = true) (as : Accounts) (t : Tx) (s n : Nat) :
    nonceOf as s ≤ nonceOf (applyTx cfg as t).1 s ∧
    ((isSN s n t && isApplied (applyTx cfg as t).2) = true →
      nonceOf as s = n ∧ n < nonceOf (applyTx cfg as t).1 s) := by
  refine applyTx_cases (fun r => nonceOf as s ≤ nonceOf r.1 s ∧
    ((isSN s n t && isApplied r.2) = true → nonceOf as s = n ∧ n < nonceOf r.1 s)) cfg as t
    ⟨Nat.le_refl _, ?_⟩ (fun _ => ⟨Nat.le_refl _, ?_⟩) ?_
  · simp [isApplied]
  · simp [isApplied]
  · intro s' n' k v g p z nz as' o ht _ hn hi
    subst ht
    dsimp only
    rw [hi s]
    refine ⟨?_, fun h => ?_⟩
    · split
      · rename_i e
        rw [e]
        exact Nat.le_succ _
      · exact Nat.le_refl _
    · simp only [isSN, Bool.and_eq_true, beq_iff_eq] at h
      obtain ⟨⟨rfl, rfl⟩, -⟩ := h
      have := hn.resolve_right (by simp [hk])
      rw [if_pos rfl]
      omega

/-- C09 A4 wherever the nonce of key-value transactions is checked; the second part is what the
    induction needs -/
theorem timesApplied_le (cfg : Cfg) (hk : cfg.kvNonceCheck = true) (s n : Nat) : ∀ (ts : List Tx) (as : Accounts),
    timesApplied cfg s n as ts ≤ 1 ∧ (n < nonceOf as s → timesApplied cfg s n as ts = 0) := by
  intro ts
  induction ts with
  | nil => exact fun as => ⟨Nat.zero_le _, fun _ => rfl⟩
  | cons t rest ih =>
    intro as
    obtain ⟨hmono, happ⟩ := applyTx_nonce cfg hk as t s n
    obtain ⟨h1, h0⟩ := ih (applyTx cfg as t).1
    unfold timesApplied
    split
    · rename_i hc
      have := happ hc
      have := h0 (by omega)
      omega
    · refine ⟨by omega, fun hp => ?_⟩
      have := h0 (by omega)
      omega

end AnnVerif.C09

namespace AnnVerif.C05
open AnnVerif AnnVerif.App

section
variable (N : Bytes → Bytes → Bytes)

/-- a chain with process lifetimes: blocks (transactions + the receipts the EVM returns for the
    applied ones) and restarts between them -/
inductive Ev where
  | blk (txs : List Tx) (oracle : List Bytes)
  | restart

def run (cfg : Cfg) : App → List Ev → App × List BlockOut
  | app, [] => (app, [])
  | app, .blk txs o :: rest =>
    let (app', out) := block N cfg app txs o
    let (app'', outs) := run cfg app' rest
    (app'', out :: outs)
  | app, .restart :: rest => run cfg (restart app) rest

def isBlk : Ev → Bool
  | .blk _ _ => true
  | .restart => false

/-- at a block boundary nothing of the last block is left in the process -/
def Clean (app : App) : Prop := app.receipts = [] ∧ app.kvs = []

theorem block_clean (cfg : Cfg) (h : cfg.resetKvs = true) (app : App) (txs : List Tx) (o : List Bytes) :
    Clean (block N cfg app txs o).1 :=
  ⟨rfl, if_pos h⟩

theorem restart_of_clean (app : App) (h : Clean app) : restart app = app := by
  obtain ⟨accounts, height, receipts, kvs⟩ := app
  obtain ⟨rfl, rfl⟩ := h
  rfl

/-- C05 D2 wherever the commit clears the key-value records -/
theorem run_filter_isBlk (cfg : Cfg) (h : cfg.resetKvs = true) : ∀ (evs : List Ev) (app : App), Clean app →
    run N cfg app evs = run N cfg app (evs.filter isBlk) := by
  intro evs
  induction evs with
  | nil => intro app _; rfl
  | cons e rest ih =>
    intro app hc
    cases e with
    | restart =>
      simp only [run, List.filter, isBlk]
      rw [restart_of_clean app hc]
      exact ih app hc
    | blk txs o =>
      simp only [run, List.filter, isBlk]
      rw [ih _ (block_clean N cfg h app txs o)]

end

end AnnVerif.C05

