/-
  The abstract agreement theorem of the locking protocol: for ANY number of validators, ANY voting
  powers, ANY Byzantine set holding less than one third, and ANY vote history whose honest part
  obeys (A1) no equivocation, (A2) precommit only on a polka, (A3) prevote the locked block unless
  a polka for something else was seen in an intermediate round — two blocks can never both gather
  more than two thirds of the precommits, in the same or in different rounds
  (`C01.agreement_one_height`, Props/C01.lean, from `agreement_of_no_later_polka` and `no_later_polka`).
-/
import AnnVerif.Lemmas.Fairness
namespace AnnVerif.Agreement
open AnnVerif.Fairness
open Classical

variable {Block : Type}

/-- voting power of the validators (positions < N) satisfying `P` -/
noncomputable def pow (N : Nat) (w : Nat → Int) (P : Nat → Prop) : Int :=
  S N (fun j => if P j then w j else 0)

theorem pow_mono (N : Nat) (w : Nat → Int) (hw : ∀ j, j < N → 0 ≤ w j) (P Q : Nat → Prop)
    (h : ∀ j, P j → Q j) : pow N w P ≤ pow N w Q := by
  apply S_mono
  intro j hj
  by_cases hp : P j
  · rw [if_pos hp, if_pos (h j hp)]
    exact Int.le_refl _
  · rw [if_neg hp]
    split
    · exact hw j hj
    · exact Int.le_refl _

theorem pow_nonneg (N : Nat) (w : Nat → Int) (hw : ∀ j, j < N → 0 ≤ w j) (P : Nat → Prop) :
    0 ≤ pow N w P :=
  S_nonneg N _ (fun j hj => by by_cases h : P j <;> simp [h, hw j hj])

theorem quorum_intersection (N : Nat) (w : Nat → Int) (hw : ∀ j, j < N → 0 ≤ w j)
    (F P Q : Nat → Prop) (hF : 3 * pow N w F < S N w)
    (hP : 3 * pow N w P > 2 * S N w) (hQ : 3 * pow N w Q > 2 * S N w) :
    ∃ j, j < N ∧ P j ∧ Q j ∧ ¬ F j := by
  apply Classical.byContradiction
  intro hno
  -- otherwise every validator in both `P` and `Q` is in `F`, so it counts twice on neither side
  have : pow N w P + pow N w Q ≤ S N w + pow N w F := by
    unfold pow
    rw [← S_add, ← S_add]
    apply S_mono
    intro j hj
    have := hw j hj
    by_cases hp : P j
    · by_cases hq : Q j
      · have hf : F j := Classical.not_not.mp fun hf => hno ⟨j, hj, hp, hq, hf⟩
        simp only [hp, hq, hf, if_true]
        omega
      · simp only [hp, hq, if_true, if_false]
        split <;> omega
    · simp only [hp, if_false]
      split <;> split <;> omega
  omega

/-- The part of the agreement argument that does not depend on how a polka is justified. Rounds
    are of any type with a trichotomous `<` (`Nat` below and in AgreementT, `Int` for the node
    model); `pc r b` is the set of validators with a precommit for `b` in round `r`, and `polka r b`
    says that round `r` has a polka for `b`. If a commit quorum rules out every later polka for
    another block (`later`), two commit quorums are for the same block: in one round they share an
    honest validator, which precommits once; in two rounds an honest precommitter of the later
    quorum had a polka that the earlier quorum rules out. -/
theorem agreement_of_no_later_polka {Block R : Type} [LT R] (tri : ∀ a b : R, a < b ∨ a = b ∨ b < a)
    (N : Nat) (w : Nat → Int) (hw : ∀ j, j < N → 0 ≤ w j) (F : Nat → Prop)
    (hF : 3 * pow N w F < S N w) (pc : R → Block → Nat → Prop) (polka : R → Block → Prop)
    (unique : ∀ j r b b', ¬ F j → pc r b j → pc r b' j → b = b')
    (justified : ∀ j r b, ¬ F j → pc r b j → polka r b)
    (later : ∀ r b, 3 * pow N w (pc r b) > 2 * S N w → ∀ r' b', r < r' → b' ≠ b → ¬ polka r' b')
    (r r' : R) (b b' : Block)
    (hq : 3 * pow N w (pc r b) > 2 * S N w) (hq' : 3 * pow N w (pc r' b') > 2 * S N w) : b = b' := by
  have ordered : ∀ r r' b b', 3 * pow N w (pc r b) > 2 * S N w →
      3 * pow N w (pc r' b') > 2 * S N w → r < r' → b' = b := by
    intro r r' b b' hq hq' hlt
    obtain ⟨j, _, hpc', _, hf⟩ := quorum_intersection N w hw F _ _ hF hq' hq'
    exact Classical.byContradiction fun hne => later r b hq r' b' hlt hne (justified j r' b' hf hpc')
  rcases tri r r' with hlt | heq | hgt
  · exact (ordered r r' b b' hq hq' hlt).symm
  · subst heq
    obtain ⟨j, _, hpc, hpc', hf⟩ := quorum_intersection N w hw F _ _ hF hq hq'
    exact unique j r b b' hf hpc hpc'
  · exact ordered r' r b' b hq' hq hgt

/-- a vote history of one height; `none` is the nil block -/
structure History (Block : Type) where
  prevote : Nat → Nat → Option Block → Prop      -- validator, round, block
  precommit : Nat → Nat → Option Block → Prop

section
variable (N : Nat) (w : Nat → Int) (F : Nat → Prop) (H : History Block)

/-- more than two thirds of the voting power prevoted `x` in round `r` -/
def Polka (r : Nat) (x : Option Block) : Prop :=
  3 * pow N w (fun j => H.prevote j r x) > 2 * S N w

/-- more than two thirds precommitted block `b` in round `r` (what a commit needs) -/
def CommitQuorum (r : Nat) (b : Block) : Prop :=
  3 * pow N w (fun j => H.precommit j r (some b)) > 2 * S N w

structure HonestRules : Prop where
  /-- A1 (C04 L11 in a crash-free run, C03 across restarts): at most one prevote and one precommit per round -/
  prevote_unique : ∀ j r x y, ¬ F j → H.prevote j r x → H.prevote j r y → x = y
  precommit_unique : ∀ j r x y, ¬ F j → H.precommit j r x → H.precommit j r y → x = y
  /-- A2 (C04 L1, over runs L8): a block is precommitted only in a round that has a polka for it -/
  precommit_polka : ∀ j r b, ¬ F j → H.precommit j r (some b) → Polka N w H r (some b)
  /-- A3 (C04 L2): after precommitting `b` in round `r`, a later prevote for something else needs
      a polka for something else in a round strictly between. The node also unlocks on a polka of the
      prevote's own round; what it guarantees over runs (C04 L10) is the timed form, AgreementT -/
  lock : ∀ j r b r' x, ¬ F j → H.precommit j r (some b) → r < r' → H.prevote j r' x → x ≠ some b →
    ∃ r'' y, r < r'' ∧ r'' < r' ∧ y ≠ some b ∧ Polka N w H r'' y

theorem no_later_polka (hw : ∀ j, j < N → 0 ≤ w j) (hF : 3 * pow N w F < S N w)
    (rules : HonestRules N w F H) (r : Nat) (b : Block) (hq : CommitQuorum N w H r b) :
    ∀ r' : Nat, r < r' → ∀ y, y ≠ some b → ¬ Polka N w H r' y := by
  intro r'
  induction r' using Nat.strongRecOn with
  | _ r' ih =>
    intro hlt y hy hpolka
    obtain ⟨j, _, hpc, hpv, hf⟩ :=
      quorum_intersection N w hw F _ _ hF hq hpolka
    obtain ⟨r'', z, h1, h2, hz, hp⟩ := rules.lock j r b r' y hf hpc hlt hpv hy
    exact ih r'' h2 h1 z hz hp

theorem agreement (hw : ∀ j, j < N → 0 ≤ w j) (hF : 3 * pow N w F < S N w)
    (rules : HonestRules N w F H) (r r' : Nat) (b b' : Block)
    (hq : CommitQuorum N w H r b) (hq' : CommitQuorum N w H r' b') : b = b' :=
  agreement_of_no_later_polka Nat.lt_trichotomy N w hw F hF
    (fun r b j => H.precommit j r (some b)) (fun r b => Polka N w H r (some b))
    (fun j r _ _ hf h h' => Option.some.inj (rules.precommit_unique j r _ _ hf h h'))
    (fun j r b => rules.precommit_polka j r b)
    (fun r b hq r' b' hlt hne => no_later_polka N w F H hw hF rules r b hq r' hlt (some b')
      (fun e => hne (Option.some.inj e)))
    r r' b b' hq hq'

end
end AnnVerif.Agreement
