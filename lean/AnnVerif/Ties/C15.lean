/-
  Tie between the guard order of `VoteSet.addVote` (gemmill/types/vote_set.go) as REGENERATED from
  /repo and the model's `VoteSet.addVote`.
-/
import AnnVerif.Gen.Facts
import AnnVerif.Model.VoteSet
namespace AnnVerif.Ties
open AnnVerif AnnVerif.VoteSet

/-- the model's guard order (`VoteSet.addVote`, repaired), as a chain over the outcomes of its tests -/
def addVoteChain (idxNeg addrEmpty stepBad valNone addrNe exSome sigEq sigBad : Bool) : String :=
  if idxNeg then "return false, ErrVoteInvalidValidatorIndex"
  else if addrEmpty then "return false, ErrVoteInvalidValidatorAddress"
  else if stepBad then "return false, fmt.Errorf('%v,Expected %d/%d/%d, but got %d/%d/%d', ErrVoteUnexpectedStep, voteSet.height, voteSet.round, voteSet.type_, vote.Height, vote.Round, vote.Type)"
  else if valNone then "return false, ErrVoteInvalidValidatorIndex"
  else if addrNe then "return false, ErrVoteInvalidValidatorAddress"
  else if exSome then (if sigEq then "return false, nil" else "return false, ErrVoteInvalidSignature")
  else if sigBad then "return false, ErrVoteInvalidSignature"
  else "reach"

/-- the code's if-tree IS that chain, for all values of its variables -/
theorem addVote_tree_is_chain (addrEq : Bool) (lenAddr idx : Int) (sigok valSome sigEq exSome : Bool)
    (sh sr st vh vr vt : Int) :
    Gen.t_voteSet_addVote (bytes_Equal_valAddr_voteSet_valSet_GetByIndex_valIndex_lookupAddr := addrEq) (len_valAddr := lenAddr)
      (valIndex := idx) (voteSet_valSet_GetByIndex_valIndex_val_PubKey_VerifyBytes_SignBytes_voteSet_chainID_vote_vote_Signature := sigok)
      (voteSet_valSet_GetByIndex_valIndex_val_notNil := valSome)
      (voteSet_getVote_valIndex_vote_BlockID_Key_blockKey_existing_Signature_Equals_vote_Signature := sigEq)
      (voteSet_getVote_valIndex_vote_BlockID_Key_blockKey_ok := exSome) (voteSet_height := sh) (voteSet_round := sr)
      (voteSet_type_ := st) (vote_Height := vh) (vote_Round := vr) (vote_Type := vt) =
      addVoteChain (decide (idx < 0)) (lenAddr == 0) ((vh != sh) || (vr != sr) || (vt != st)) (!valSome) (!addrEq)
        exSome sigEq (!sigok) := by
  -- the translator prints the tree in the chain's own shape: both sides unfold to the same term
  rfl

/-- a vote for another height, round or type than the set's: when the code's step test fires on a
    vote that passed the index and address tests, the model function refuses it with the step error
    and leaves the set as it was -/
theorem addVote_wrong_step_refused (vs : VoteSet) (v : Vote) (sigok : Bool) (h1 : ¬ v.idx < 0) (h2 : v.addr ≠ [])
    (h3 : ((v.height != vs.height) || (v.round != vs.round) || ((v.type : Int) != (vs.type : Int))) = true) :
    addVote repaired vs v sigok = (vs, .errStep) := by
  have h2' : v.addr.isEmpty = false := by cases hv : v.addr <;> simp_all
  have h3' : v.height ≠ vs.height ∨ v.round ≠ vs.round ∨ v.type ≠ vs.type := by
    simpa only [Bool.or_eq_true, bne_iff_ne, ne_eq, or_assoc, Int.natCast_inj] using h3
  unfold addVote
  simp [h1, h2', h3', repaired]

end AnnVerif.Ties
