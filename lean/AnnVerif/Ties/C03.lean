/-
  Ties between what /verif/go/cmd/extract REGENERATES from /repo (AnnVerif/Gen/Facts.lean) and the
  model of C03; re-checked by `lake build` on every run of `./check C03`.
-/
import AnnVerif.Gen.Facts
import AnnVerif.Model.Signer
namespace AnnVerif.Ties
open AnnVerif

/-! ### C03: the comparison chain of `signBytesHRS` is `Signer.verdict` -/

def verdictLabel : Signer.Verdict → String
  | .fresh => "reach"                                      -- falls through to `privVal.Sign`
  | .cached => "return privVal.LastSignature, nil"
  | .regression => "regression"

def isRegression (s : String) : Bool :=
  s == "return nil, errors.New('Height regression')" || s == "return nil, errors.New('Round regression')" ||
  s == "return nil, errors.New('Step regression')"

def normLabel (s : String) : String := if isRegression s then "regression" else s

/-- for every signer record, request and byte comparison outcome: the code's if-tree (with
    `LastSignature` present whenever `LastSignBytes` is - the record invariant the model builds in)
    gives the verdict of the model -/
theorem signBytesHRS_is_verdict (m : Signer.Rec) (h r s : Int) (b : Bytes) :
    normLabel (Gen.t_signBytesHRS (m.bytes == some b) h m.h m.r m.bytes.isSome m.bytes.isSome m.s r s) =
      verdictLabel (Signer.verdict m h r s b) := by
  unfold Gen.t_signBytesHRS Signer.verdict
  -- both labellings go to the leaves, where they are computed on literals; the trees then make the same tests
  -- (`decide`, `==` against `>`, `=`) and differ only in how the stored bytes are looked at
  simp only [apply_ite normLabel, apply_ite verdictLabel]
  cases hb : m.bytes with
  | none => simp [normLabel, isRegression, verdictLabel]
  | some lb =>
    simp only [apply_ite verdictLabel]
    simp [normLabel, isRegression, verdictLabel]

theorem signer_steps : Gen.c_stepNone = 0 ∧ Gen.c_stepPropose = 1 ∧ Gen.c_stepPrevote = 2 ∧ Gen.c_stepPrecommit = 3 :=
  ⟨rfl, rfl, rfl, rfl⟩

/-- `PrivValidator.save` reaches the durable write on every call with a file path - no other branch
    returns before it (the signer model's `save` is the write, whatever was written before) -/
theorem privval_save_always_writes (b : Bool) :
    Gen.t_privval_save (eq_privVal_filePath_ := b) = "reach" ↔ b = false := by
  unfold Gen.t_privval_save
  cases b <;> simp

end AnnVerif.Ties
