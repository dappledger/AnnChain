/-
  Ties between the nonce tests of transaction admission as REGENERATED from /repo
  (eth/core/state_transition.go preCheck, chain/app/evm/evm.go executeKVTx) and the application
  model (Model/App.lean): a transaction goes on exactly when its nonce IS the sender's.
-/
import AnnVerif.Gen.Facts
namespace AnnVerif.Ties

/-- `preCheck` with nonce checking on lets a message through to `buyGas` exactly at the account's nonce -/
theorem preCheck_passes_iff (accNonce txNonce : Nat) :
    Gen.t_preCheck (st_msg_CheckNonce := true) (st_msg_Nonce := txNonce) (st_state_GetNonce_st_msg_From_nonce := accNonce)
      = "return st.buyGas()" ↔ txNonce = accNonce := by
  unfold Gen.t_preCheck
  by_cases h1 : (accNonce : Int) < txNonce
  · simp [h1]
    omega
  by_cases h2 : (accNonce : Int) > txNonce
  · simp [h1, h2]
    omega
  · simp [h1, h2]
    omega

/-- `executeKVTx` (repaired) applies a decodable, validly signed key-value transaction exactly at the
    sender's nonce -/
theorem executeKVTx_applies_iff (accNonce txNonce : Nat) :
    Gen.t_executeKVTx (etypes_Sender_app_Signer_tx_err_notNil := false) (rlp_DecodeBytes_txData_kvData_err_notNil := false)
      (state_GetNonce_etypes_Sender_app_Signer_tx_from_nonce := accNonce) (tx_Nonce := txNonce) = "reach" ↔ txNonce = accNonce := by
  unfold Gen.t_executeKVTx
  by_cases h1 : (accNonce : Int) < txNonce
  · simp [h1]
    omega
  by_cases h2 : (accNonce : Int) > txNonce
  · simp [h1, h2]
    omega
  · simp [h1, h2]
    omega

/-- ... and never when its bytes do not decode or its signature does not verify -/
theorem executeKVTx_refuses_undecodable (a b : Int) (sigErr : Bool) :
    Gen.t_executeKVTx (etypes_Sender_app_Signer_tx_err_notNil := sigErr) (rlp_DecodeBytes_txData_kvData_err_notNil := true)
      (state_GetNonce_etypes_Sender_app_Signer_tx_from_nonce := a) (tx_Nonce := b) = "return nil, err" := rfl

end AnnVerif.Ties
