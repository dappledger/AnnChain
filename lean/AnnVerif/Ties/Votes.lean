/-
  Ties between the decision expressions REGENERATED from /repo (AnnVerif/Gen/Facts.lean, written by
  /verif/go/cmd/extract on every run) and the vote-accounting models: thresholds of
  gemmill/types/vote_set.go, validator_set.go (VerifyCommit) and plugin/admin_op.go (CheckMajor23).
  Each theorem holds for ALL values of the expression's variables (voting power totals are
  non-negative: Go's truncating division and the model's `/` agree there and only there).
-/
import AnnVerif.Gen.Facts
import AnnVerif.Model.VoteSet
namespace AnnVerif.Ties
open AnnVerif

/-- `quorum := voteSet.valSet.TotalVotingPower()*2/3 + 1` is the model's `quorum` -/
theorem voteSet_quorum (t : Int) (ht : 0 ≤ t) : Gen.e_voteSet_quorum t = VoteSet.quorum t := by
  unfold Gen.e_voteSet_quorum VoteSet.quorum
  rw [Int.tdiv_eq_ediv_of_nonneg (by omega)]

/-- the quorum-crossing test of `addVerifiedVote` is the one of `applyTally` -/
theorem voteSet_crossed (orig q now : Int) :
    Gen.e_voteSet_crossed orig q now = decide (orig < q ∧ q ≤ now) := by
  unfold Gen.e_voteSet_crossed
  rw [Bool.decide_and]

theorem voteSet_twoThirdsAny (vs : VoteSet.VoteSet) (ht : 0 ≤ VoteSet.total vs.vals) :
    Gen.e_voteSet_twoThirdsAny vs.sum (VoteSet.total vs.vals) = VoteSet.hasTwoThirdsAny vs := by
  unfold Gen.e_voteSet_twoThirdsAny VoteSet.hasTwoThirdsAny
  rw [Int.tdiv_eq_ediv_of_nonneg (by omega)]

theorem voteSet_hasAll (vs : VoteSet.VoteSet) :
    Gen.e_voteSet_hasAll vs.sum (VoteSet.total vs.vals) = VoteSet.hasAll vs := rfl

/-- `talliedVotingPower > valSet.TotalVotingPower()*2/3` -/
theorem verifyCommit_enough (tallied t : Int) (ht : 0 ≤ t) :
    Gen.e_verifyCommit_enough tallied t = decide (tallied > t * 2 / 3) := by
  unfold Gen.e_verifyCommit_enough
  rw [Int.tdiv_eq_ediv_of_nonneg (by omega)]

/-- ... and it is the same threshold as the vote set's: more than two thirds = at least the quorum -/
theorem verifyCommit_enough_iff_quorum (tallied t : Int) (ht : 0 ≤ t) :
    Gen.e_verifyCommit_enough tallied t = decide (Gen.e_voteSet_quorum t ≤ tallied) := by
  rw [verifyCommit_enough _ _ ht, voteSet_quorum _ ht]
  unfold VoteSet.quorum
  exact decide_eq_decide.2 (by omega)

/-- the enum values the models use for the vote types -/
theorem vote_types : Gen.c_VoteTypePrevote = 1 ∧ Gen.c_VoteTypePrecommit = 2 := ⟨rfl, rfl⟩

end AnnVerif.Ties
