/-
  Ties between the guard order of `Block.ValidateBasic` / `Block.ValidateCommit` (gemmill/types/block.go)
  as REGENERATED from /repo and the block-validation model (Model/Block.lean).
-/
import AnnVerif.Gen.Facts
import AnnVerif.Model.Block
namespace AnnVerif.Ties
open AnnVerif AnnVerif.Block

def basicLabel : BErr → String
  | .ok => "return nil"
  | .chainID => "return errors.New(gcmn.Fmt('Wrong Block.Header.ChainID. Expected %v, got %v', chainID, b.ChainID))"
  | .height => "return errors.New(gcmn.Fmt('Wrong Block.Header.Height. Expected %v, got %v', lastBlockHeight+1, b.Height))"
  | .numTxs => "return errors.New(gcmn.Fmt('Wrong Block.Header.NumTxs. Expected %v, got %v', len(b.Data.Txs)+len(b.Data.ExTxs), b.NumTxs))"
  | .lastBlockID => "return errors.New(gcmn.Fmt('Wrong Block.Header.LastBlockID. Expected %v, got %v', lastBlockID, b.LastBlockID))"
  | .dataHash => "return errors.New(gcmn.Fmt('Wrong Block.Header.DataHash. Expected %X, got %X', b.DataHash, b.Data.Hash()))"
  | .appHash => "return errors.New(gcmn.Fmt('Wrong Block.Header.AppHash. Expected %X, got %X', appHash, b.AppHash))"
  | .receiptsHash => "return errors.New(gcmn.Fmt('Wrong Block.Header.ReceiptsHash. Expected %X, got %X', receiptsHash, b.ReceiptsHash))"
  | _ => "?"

/-- `ValidateBasic`: for every chain state and block, the code's if-tree - read on the model's fields,
    the transaction count split in any way over Txs and ExTxs - is the model's `validateBasic` -/
theorem validateBasic_is_model (st : State) (b : Block) (nTx nEx : Int) (hn : nTx + nEx = b.nTxs) :
    Gen.t_validateBasic b.hdr.height (b.hdr.lastBlockID == st.lastBlockID) b.hdr.numTxs (b.hdr.appHash == st.appHash)
      (b.hdr.dataHash == b.dataDigest) (b.hdr.receiptsHash == st.receiptsHash) (b.hdr.chainID == st.chainID)
      st.lastBlockHeight nEx nTx = basicLabel (validateBasic st b) := by
  unfold Gen.t_validateBasic validateBasic
  rw [hn]
  -- the label goes to the leaves of the model's chain; then each test of the code is the model's, spelt with `!`, `==`, `!=`
  simp only [apply_ite basicLabel]
  simp only [basicLabel, Bool.not_eq_true', beq_eq_false_iff_ne, bne_iff_ne]

/-- `ValidateCommit`: commit hash first, `Commit.ValidateBasic` only above height 1; the code accepts
    exactly when the model's `validateCommit` does -/
theorem validateCommit_accepts_iff (cfg : Cfg) (b : Block) :
    Gen.t_validateCommit b.hdr.height (commitValidateBasic cfg b.commit != .ok) (b.hdr.lastCommitHash == b.commitDigest) = "return nil"
      ↔ validateCommit cfg b = .ok := by
  unfold Gen.t_validateCommit validateCommit
  by_cases h1 : b.hdr.lastCommitHash = b.commitDigest
  case neg => simp [h1]
  by_cases h2 : b.hdr.height = 1
  · simp [h1, h2]
  by_cases h3 : commitValidateBasic cfg b.commit = .ok
  · simp [h1, h2, h3]
  · simp [h1, h2, h3]

end AnnVerif.Ties
