/-
  Ties between what /verif/go/cmd/extract REGENERATES from /repo (AnnVerif/Gen/Facts.lean) and the
  model of C12; re-checked by `lake build` on every run of `./check C12`.
-/
import AnnVerif.Gen.Facts
import AnnVerif.Model.Ticker
namespace AnnVerif.Ties
open AnnVerif

/-! ### C12: the stale-request filter of `timeoutRoutine` is `Ticker.accept` -/

theorem ticker_filter_is_accept (ti nt : Ticker.TI) :
    (Gen.t_ticker_filter nt.height nt.round nt.step ti.height ti.round ti.step == "reach") =
      Ticker.accept {} ti nt := by
  unfold Gen.t_ticker_filter Ticker.accept
  by_cases h1 : nt.height < ti.height
  · simp [h1]
  by_cases h2 : nt.height = ti.height
  case neg => simp [h1, h2]
  by_cases h3 : nt.round < ti.round
  · simp [h2, h3]
  by_cases h4 : nt.round = ti.round
  case neg => simp [h2, h3, h4]
  by_cases h5 : ti.step > 0 ∧ nt.step ≤ ti.step
  · simp [h2, h4, h5]
  · simp [h2, h4, h5]

end AnnVerif.Ties
