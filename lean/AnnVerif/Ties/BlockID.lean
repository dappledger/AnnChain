/-
  Tie: `BlockID.Equals` / `PartSetHeader.Equals` (gemmill/types) are EXACTLY the structural equality of
  the model's block ids - header hash AND part-set total AND part-set hash, nothing less and no case
  apart (C13, C15, C02: "votes for another id justify nothing" rests on it).
-/
import AnnVerif.Gen.Facts
import AnnVerif.Model.VoteSet
namespace AnnVerif.Ties
open AnnVerif

theorem partSetHeader_equals_iff (t1 t2 : Int) (h : Bool) :
    Gen.e_partSetHeader_equals (psh_Total := t1) (other_Total := t2) (bytes_Equal_psh_Hash_other_Hash := h) =
      (decide (t1 = t2) && h) := by
  unfold Gen.e_partSetHeader_equals
  by_cases e : t1 = t2 <;> simp [e]

theorem blockID_equals_is_model_equality (a b : VoteSet.BlockID) :
    Gen.e_blockID_equals (bytes_Equal_blockID_Hash_other_Hash := decide (a.hash = b.hash))
      (blockID_PartsHeader_Equals_other_PartsHeader :=
        Gen.e_partSetHeader_equals (psh_Total := a.total) (other_Total := b.total)
          (bytes_Equal_psh_Hash_other_Hash := decide (a.phash = b.phash))) = decide (a = b) := by
  unfold Gen.e_blockID_equals
  rw [partSetHeader_equals_iff]
  obtain ⟨h1, t1, p1⟩ := a
  obtain ⟨h2, t2, p2⟩ := b
  simp only [VoteSet.BlockID.mk.injEq, Bool.decide_and]

/-- ... and that conjunction is the WHOLE function: one return, no case apart (no early answer for ids
    without hash, for instance) -/
theorem blockID_equals_has_no_special_case :
    Gen.t_blockID_equals_shape =
      "return bytes.Equal(blockID.Hash, other.Hash) && blockID.PartsHeader.Equals(other.PartsHeader)" := rfl

/-- `addVerifiedVote`, at the moment a block first reaches +2/3: EVERY vote held for that block is
    copied into the primary array (the condition is "the slot holds a vote", nothing else) - so the
    commit made from the array carries the votes of the majority (C15 `commit_verifies`, C02) -/
theorem voteSet_copies_every_vote_of_the_majority (b : Bool) : Gen.e_voteSet_copy_cond (vote_notNil := b) = b := rfl

end AnnVerif.Ties
