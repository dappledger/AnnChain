/-
  Tie between the EVM jump table as REGENERATED from /repo (eth/core/vm/jump_table.go: opcode ->
  execute function, stack items needed, stack items left) and the word/stack model of C10
  (Model/Word.lean): every instruction the model implements is in the table under the expected
  execute function, and the table's stack requirement is exactly when the model's step is defined.
-/
import AnnVerif.Gen.Facts
import AnnVerif.Model.Word
import AnnVerif.Lemmas.Table
namespace AnnVerif.Ties
open AnnVerif AnnVerif.Word

/-- stack items an instruction of the model needs / leaves in their place -/
def need : Tok → Nat
  | .push _ => 0 | .bin _ => 2 | .tern _ => 3 | .un _ => 1 | .pop => 1 | .dup n => n | .swap n => n + 1
def leave : Tok → Nat
  | .push _ => 1 | .bin _ => 1 | .tern _ => 1 | .un _ => 1 | .pop => 0 | .dup n => n + 1 | .swap n => n + 1

/-- the model's step is defined exactly when the stack holds what the table asks for, and changes
    the stack height as the table says -/
theorem stepTok_arity (st : List Nat) (tok : Tok) (hd : ∀ n, tok = .dup n → 1 ≤ n) (hs : ∀ n, tok = .swap n → 1 ≤ n) :
    match stepTok st tok with
    | some st' => need tok ≤ st.length ∧ st'.length + need tok = st.length + leave tok
    | none => st.length < need tok := by
  cases tok with
  | push v => simp [stepTok, need, leave]
  | bin f => rcases st with _ | ⟨_, _ | ⟨_, _⟩⟩ <;> simp [stepTok, need, leave]
  | tern f => rcases st with _ | ⟨_, _ | ⟨_, _ | ⟨_, _⟩⟩⟩ <;> simp [stepTok, need, leave]
  | un f => rcases st with _ | ⟨_, _⟩ <;> simp [stepTok, need, leave]
  | pop => rcases st with _ | ⟨_, _⟩ <;> simp [stepTok, need, leave]
  | dup n =>
    have h1 := hd n rfl
    cases hg : st[n - 1]? with
    | none =>
      have := List.getElem?_eq_none_iff.1 hg
      simp only [stepTok, hg, need]; omega
    | some v =>
      obtain ⟨hlt, _⟩ := List.getElem?_eq_some_iff.1 hg
      simp only [stepTok, hg, if_neg (Nat.ne_of_gt h1), need, leave, List.length_cons]; omega
  | swap n =>
    have h1 := hs n rfl
    rcases st with _ | ⟨a, t⟩
    · simp [stepTok, need]
    cases hg : (a :: t)[n]? with
    | none =>
      have := List.getElem?_eq_none_iff.1 hg
      simp only [stepTok, hg, need]; omega
    | some v =>
      obtain ⟨hlt, _⟩ := List.getElem?_eq_some_iff.1 hg
      simp only [stepTok, hg, if_neg (Nat.ne_of_gt h1), need, leave, List.length_cons, List.length_tail, List.length_set] at hlt ⊢
      omega

/-- the instructions of the model, with the execute function of the code they are compared with on
    every run (three-way, against go-ethereum v1.8.27) -/
def modelOps : List (String × String × Tok) :=
  [("ADD", "opAdd", .bin add), ("MUL", "opMul", .bin mul), ("SUB", "opSub", .bin sub), ("DIV", "opDiv", .bin div),
   ("SDIV", "opSdiv", .bin sdiv), ("MOD", "opMod", .bin mod), ("SMOD", "opSmod", .bin smod),
   ("ADDMOD", "opAddmod", .tern addmod), ("MULMOD", "opMulmod", .tern mulmod), ("EXP", "opExp", .bin exp),
   ("SIGNEXTEND", "opSignExtend", .bin signextend), ("LT", "opLt", .bin lt), ("GT", "opGt", .bin gt),
   ("SLT", "opSlt", .bin slt), ("SGT", "opSgt", .bin sgt), ("EQ", "opEq", .bin eq), ("ISZERO", "opIszero", .un iszero),
   ("AND", "opAnd", .bin and_), ("OR", "opOr", .bin or_), ("XOR", "opXor", .bin xor_), ("NOT", "opNot", .un not_),
   ("BYTE", "opByte", .bin byte), ("SHL", "opSHL", .bin shl), ("SHR", "opSHR", .bin shr), ("SAR", "opSAR", .bin sar),
   ("POP", "opPop", .pop), ("PUSH1", "makePush(1, 1)", .push 0), ("PUSH32", "makePush(32, 32)", .push 0),
   ("DUP1", "makeDup(1)", .dup 1), ("DUP2", "makeDup(2)", .dup 2), ("DUP8", "makeDup(8)", .dup 8), ("DUP16", "makeDup(16)", .dup 16),
   ("SWAP1", "makeSwap(1)", .swap 1), ("SWAP2", "makeSwap(2)", .swap 2), ("SWAP8", "makeSwap(8)", .swap 8),
   ("SWAP16", "makeSwap(16)", .swap 16)]

/-- every one of them is in the code's jump table, under that execute function, with the stack
    requirement and effect of the model's instruction -/
theorem jumpTable_has_model_ops :
    (modelOps.all fun e => Gen.jumpTable.contains (e.1, e.2.1, need e.2.2, leave e.2.2)) = true := by
  have h : (modelOps.all fun e => Table.hasRow e.1 e.2.1 (need e.2.2) (leave e.2.2) Gen.jumpTable) = true := by
    decide +kernel
  rw [List.all_eq_true] at h ⊢
  exact fun e he => Table.contains_of_hasRow (h e he)

/-- the table has an entry for each opcode once -/
theorem jumpTable_opcodes_distinct : (Gen.jumpTable.map (·.1)).Nodup :=
  Table.nodup_of_distinct_keys Table.strKey (by decide +kernel)

/-- CREATE / CREATE2 hand their creator return data exactly when the creation REVERTED - not when it
    failed in any other way (oversized code, unpaid deposit, ...) -/
theorem opCreate_returns_data_only_after_revert (b : Bool) :
    Gen.e_opCreate_returnsData (eq_suberr_errExecutionReverted := b) = b := rfl

theorem opCreate2_returns_data_only_after_revert (b : Bool) :
    Gen.t_opCreate2_returnsData
      (eq_interpreter_evm_Create2_contract_input_gas_endowment_salt_suberr_errExecutionReverted := b) = "return res, nil" ↔ b = true := by
  unfold Gen.t_opCreate2_returnsData
  cases b <;> simp

end AnnVerif.Ties
