/-
  Tie between `Validator.CompareAccum` (gemmill/types/validator.go) as REGENERATED from /repo and the
  comparison the proposer model folds with (Model/ValSet.lean `foldCompare` / `bestByAccum`):
  higher accum wins, ties go to the lower address.
-/
import AnnVerif.Gen.Facts
import AnnVerif.Model.ValSet
namespace AnnVerif.Ties
open AnnVerif AnnVerif.ValSet

/-- the model's choice between the current best `p` and the next validator `v` -/
def pick (p v : Val) : Val :=
  if p.accum > v.accum then p else if p.accum < v.accum then v else if bytesLt p.addr v.addr then p else v

/-- for two validators with different addresses (`cmp` = the sign `bytes.Compare` reports, negative
    exactly when the model's `bytesLt` holds) the code returns the validator the model picks -/
theorem compareAccum_is_pick (p v : Val) (cmp : Int) (hc : (cmp < 0) = (bytesLt p.addr v.addr = true)) (hne : cmp ≠ 0) :
    Gen.t_compareAccum cmp v.accum p.accum true = (if pick p v = p then "return v" else "return other") ∨
    (pick p v = p ∧ pick p v = v) := by
  unfold Gen.t_compareAccum pick
  by_cases h1 : p.accum > v.accum
  · left; simp [h1]
  by_cases h2 : p.accum < v.accum
  · have hpv : v ≠ p := by intro e; rw [e] at h2; omega
    left; simp [h1, h2, hpv]
  -- equal accums: the address comparison decides, `cmp` for the code and (by `hc`) `bytesLt` for the model
  by_cases h3 : cmp < 0
  · have hb : bytesLt p.addr v.addr = true := hc ▸ h3
    left; simp [h1, h2, h3, hb]
  have hb : ¬ bytesLt p.addr v.addr = true := hc ▸ h3
  have h4 : cmp > 0 := by omega
  by_cases hpv : v = p
  · right; simp [hpv]
  · left; simp [h1, h2, h3, h4, hb, hpv]

/-- the first call (`proposer == nil`) returns the other validator, like `foldCompare none` -/
theorem compareAccum_nil (cmp a b : Int) : Gen.t_compareAccum cmp a b false = "return other" := rfl

end AnnVerif.Ties
