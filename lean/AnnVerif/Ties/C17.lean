/-
  Ties between what /verif/go/cmd/extract REGENERATES from /repo (AnnVerif/Gen/Facts.lean) and the
  model of C17; re-checked by `lake build` on every run of `./check C17`.
-/
import AnnVerif.Gen.Facts
import AnnVerif.Model.Merkle
namespace AnnVerif.Ties
open AnnVerif

theorem proof_badIndex (idx total : Int) :
    Gen.e_proof_badIndex idx total = ((Merkle.repaired.checkNeg && decide (idx < 0)) || decide (idx ≥ total)) := rfl

theorem proof_numLeft (total : Int) : Gen.e_proof_numLeft total = Int.tdiv (total + 1) 2 := rfl

theorem tree_split (hs : List Bytes) : Gen.e_tree_split hs.length = ((hs.length + 1) / 2 : Nat) := by
  unfold Gen.e_tree_split
  rw [Int.tdiv_eq_ediv_of_nonneg (by omega)]
  omega

theorem tree_shape (len : Int) : Gen.t_tree_shape len =
    if len = 0 then "return nil" else if len = 1 then "return hashes[0]"
    else "return SimpleHashFromTwoHashes(left, right)" := by
  simp only [Gen.t_tree_shape, beq_iff_eq]

def addOutLabel : Merkle.AddOut → String
  | .added => "reach"
  | .dup => "return false, nil"
  | .errIndex => "return false, ErrPartSetUnexpectedIndex"
  | .errProof => "return false, ErrPartSetInvalidProof"
  | .panic => "panic"

/-- the guard order of `PartSet.AddPart` is the model's `addDecide` (for a part set whose slice has
    `total` slots, with the proof verdict as computed by the model's `verify`, which for an index in
    range and total > 0 is a Boolean - `C17.verify_total_repaired`) -/
theorem addPart_is_addDecide (H : Bytes → Bytes) (N : Bytes → Bytes → Bytes) (ps : Merkle.PartSet) (p : Merkle.Part)
    (doVerify : Bool) (hlen : ps.parts.length = ps.total)
    (hv : ∃ b, Merkle.verify N Merkle.repaired p.index ps.total (H p.bytes) p.aunts ps.hash = .ok b) :
    Gen.t_addPart p.index
      (Merkle.verify N Merkle.repaired p.index ps.total (H p.bytes) p.aunts ps.hash == .ok true)
      ((ps.parts[p.index.toNat]?).join.isSome) ps.total doVerify =
      addOutLabel (Merkle.addDecide H N Merkle.repaired ps p doVerify) := by
  unfold Gen.t_addPart Merkle.addDecide
  by_cases h1 : p.index < 0
  · simp [h1, Merkle.repaired, addOutLabel]
  by_cases h2 : p.index ≥ (ps.total : Int)
  · simp [h1, h2, Merkle.repaired, addOutLabel]
  -- in range the slot exists and the proof check answers yes or no; the three tests that are left (slot taken,
  -- `doVerify`, the answer `b`) are compared case by case
  have hlt : p.index.toNat < ps.parts.length := by omega
  obtain ⟨b, hver⟩ := hv
  rw [List.getElem?_eq_getElem hlt, hver]
  cases ps.parts[p.index.toNat] <;> cases doVerify <;> cases b <;> simp [h1, h2, Merkle.repaired, addOutLabel]

/-- `Block.MakePartSet` is `NewPartSetFromData` of the block's serialisation, made for this call (the
    model's part sets are functions of the data: C17's theorems speak of `data`, the block's bytes) -/
theorem makePartSet_is_the_part_set_of_the_serialisation (x : Int) :
    Gen.e_makePartSet (NewPartSetFromData_wire_BinaryBytes_b_partSize := x) = x := rfl

end AnnVerif.Ties
