/-
  Tie between the admission tests of `ethTxPool.CheckAndAdd` (chain/app/evm/tx_pool.go) as
  REGENERATED from /repo and the pool model's `submit` (Model/Pool.lean): same tests, same order.
-/
import AnnVerif.Gen.Facts
import AnnVerif.Model.Pool
namespace AnnVerif.Ties
open AnnVerif AnnVerif.Pool

/-- the code's tree on the model's reading of its variables -/
def checkAndAddTree (p : Pool) (t : Tx) (qn addErr : Bool) : String :=
  Gen.t_checkAndAdd (tp_addWaiting_tx_etypes_Sender_tp_app_Signer_tx_from_err_notNil := addErr)
    (tp_all_at_tx_Hash_exist := p.all.contains t.id)
    (tp_pending_at_etypes_Sender_tp_app_Signer_tx_from_q_Get_tx_Nonce_notNil := qHas (mGet p.pending t.sender) t.nonce)
    (tp_pending_at_etypes_Sender_tp_app_Signer_tx_from_q_notNil := qn)
    (tp_safeGetNonce_etypes_Sender_tp_app_Signer_tx_from_currentNonce := nonceOf p t.sender) (tx_Nonce := t.nonce)

/-- a transaction already in the lookup cache: both refuse it as known, the pool stays as it is -/
theorem checkAndAdd_exist (p : Pool) (t : Tx) (qn addErr : Bool) (h : p.all.contains t.id = true) :
    checkAndAddTree p t qn addErr = "return errTxExist" ∧ submit {} p t = (p, .exist) := by
  unfold checkAndAddTree Gen.t_checkAndAdd submit
  have hm : t.id ∈ p.all := by simpa using h
  simp [hm]

/-- a nonce below the account's: both refuse it as stale -/
theorem checkAndAdd_stale (p : Pool) (t : Tx) (qn addErr : Bool) (h : p.all.contains t.id = false)
    (h2 : nonceOf p t.sender > t.nonce) :
    checkAndAddTree p t qn addErr = "return fmt.Errorf('nonce(%d) different with getNonce(%d)', tx.Nonce(), currentNonce)" ∧
    submit {} p t = (p, .stale) := by
  unfold checkAndAddTree Gen.t_checkAndAdd submit
  -- the code tests on `Int`, the model on `Nat` and list membership: each hypothesis is wanted in both spellings
  have h2' : (nonceOf p t.sender : Int) > (t.nonce : Int) := by omega
  have hm : ¬ t.id ∈ p.all := by simpa using h
  simp [hm, h2, h2']

/-- a nonce that is already pending for the sender (repaired): both refuse it -/
theorem checkAndAdd_nonceTaken (p : Pool) (t : Tx) (addErr : Bool) (h : p.all.contains t.id = false)
    (h2 : ¬ nonceOf p t.sender > t.nonce) (h3 : qHas (mGet p.pending t.sender) t.nonce = true) :
    checkAndAddTree p t true addErr = "return errors.New('tx nonce already exist in cache')" ∧
    submit {} p t = (p, .nonceTaken) := by
  unfold checkAndAddTree Gen.t_checkAndAdd submit
  have h2' : ¬ (nonceOf p t.sender : Int) > (t.nonce : Int) := by omega
  have hm : ¬ t.id ∈ p.all := by simpa using h
  simp [hm, h2, h2', h3]

/-- otherwise both go on to `addWaiting` -/
theorem checkAndAdd_goes_on (p : Pool) (t : Tx) (qn : Bool) (h : p.all.contains t.id = false)
    (h2 : ¬ nonceOf p t.sender > t.nonce) (h3 : qHas (mGet p.pending t.sender) t.nonce = false) :
    checkAndAddTree p t qn false = "reach" := by
  unfold checkAndAddTree Gen.t_checkAndAdd
  have h2' : ¬ (nonceOf p t.sender : Int) > (t.nonce : Int) := by omega
  have hm : ¬ t.id ∈ p.all := by simpa using h
  cases qn <;> simp [hm, h2', h3]

end AnnVerif.Ties
