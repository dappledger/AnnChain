/-
  Ties between the guards of gemmill/consensus/pbft/state.go as REGENERATED from /repo
  (AnnVerif/Gen/Facts.lean) and the round-state-machine model (Model/Node.lean).
  Two kinds of theorem, each for ALL node states and arguments:
   * `..._iff` : the code's guard, evaluated on the model's fields, is the model's guard;
   * `..._skips` : whenever the code's guard says "ignore", the model function returns the node
     unchanged (a tie to the model FUNCTION, not to a restatement of its condition).
  `RoundStepType` values are the model's `Step.toNat`.
-/
import AnnVerif.Gen.Facts
import AnnVerif.Model.Node
namespace AnnVerif.Ties
open AnnVerif AnnVerif.Node

/-- the enum the model uses for steps is the code's -/
theorem roundSteps :
    Gen.c_RoundStepNewHeight = (Step.newHeight.toNat : Int) ∧ Gen.c_RoundStepNewRound = (Step.newRound.toNat : Int) ∧
    Gen.c_RoundStepPropose = (Step.propose.toNat : Int) ∧ Gen.c_RoundStepPrevote = (Step.prevote.toNat : Int) ∧
    Gen.c_RoundStepPrevoteWait = (Step.prevoteWait.toNat : Int) ∧ Gen.c_RoundStepPrecommit = (Step.precommit.toNat : Int) ∧
    Gen.c_RoundStepPrecommitWait = (Step.precommitWait.toNat : Int) ∧ Gen.c_RoundStepCommit = (Step.commit.toNat : Int) := by
  decide

theorem step_le_iff (a b : Step) : a ≤ b ↔ (a.toNat : Int) ≤ (b.toNat : Int) := by
  show a.toNat ≤ b.toNat ↔ _
  omega

theorem step_lt_iff (a b : Step) : a < b ↔ (a.toNat : Int) < (b.toNat : Int) := by
  show a.toNat < b.toNat ↔ _
  omega

theorem step_eq_iff (a b : Step) : a = b ↔ (a.toNat : Int) = (b.toNat : Int) := by
  -- `toNat` numbers the steps in the order of their declaration, from 1
  have idx : ∀ s : Step, s.toNat = s.ctorIdx + 1 := fun s => by cases s <;> rfl
  constructor
  · intro h; rw [h]
  · intro h
    have : a.ctorIdx = b.ctorIdx := by rw [idx a, idx b] at h; omega
    rw [← Step.ofNat_ctorIdx a, ← Step.ofNat_ctorIdx b, this]

theorem handleTimeout_stale_iff (n : Node) (h r : Int) (s : Step) :
    Gen.e_handleTimeout_stale n.height n.round n.step.toNat h r s.toNat =
      decide (h ≠ n.height ∨ r < n.round ∨ (r = n.round ∧ s < n.step)) := by
  unfold Gen.e_handleTimeout_stale
  rw [Bool.eq_iff_iff]
  simp only [Bool.or_eq_true, Bool.and_eq_true, bne_iff_ne, beq_iff_eq, decide_eq_true_eq, ne_eq, step_lt_iff,
    or_assoc]

theorem handleTimeout_stale_skips (n : Node) (h r : Int) (s : Step)
    (g : Gen.e_handleTimeout_stale n.height n.round n.step.toNat h r s.toNat = true) :
    handleTimeout n h r s = n :=
  if_pos (of_decide_eq_true ((handleTimeout_stale_iff n h r s).symm.trans g))

/-! ### the enter* functions: `cs.Height != height || round < cs.Round || (cs.Round == round && X <= cs.Step)` -/

theorem guard_iff (n : Node) (h r : Int) (k : Int) (st : Step) (hk : k = st.toNat) :
    (((n.height != h) || (decide (r < n.round))) || ((n.round == r) && (decide (k ≤ (n.step.toNat : Int))))) =
      decide (n.height ≠ h ∨ r < n.round ∨ (n.round = r ∧ st ≤ n.step)) := by
  subst hk
  rw [Bool.eq_iff_iff]
  simp only [Bool.or_eq_true, Bool.and_eq_true, bne_iff_ne, beq_iff_eq, decide_eq_true_eq, ne_eq, step_le_iff,
    or_assoc]

theorem enterPropose_skips (n : Node) (h r : Int)
    (g : Gen.e_enterPropose_guard n.height n.round n.step.toNat h r = true) : enterPropose n h r = n :=
  if_pos (of_decide_eq_true ((guard_iff n h r _ .propose (by decide)).symm.trans g))

theorem enterPrevote_skips (n : Node) (h r : Int)
    (g : Gen.e_enterPrevote_guard n.height n.round n.step.toNat h r = true) : enterPrevote n h r = n :=
  if_pos (of_decide_eq_true ((guard_iff n h r _ .prevote (by decide)).symm.trans g))

theorem enterPrevote_enters (n : Node) (h r : Int)
    (g : Gen.e_enterPrevote_guard n.height n.round n.step.toNat h r = false) :
    enterPrevote n h r = { doPrevote n with round := r, step := .prevote } :=
  if_neg (of_decide_eq_false ((guard_iff n h r _ .prevote (by decide)).symm.trans g))

theorem enterPrevoteWait_skips (n : Node) (h r : Int)
    (g : Gen.e_enterPrevoteWait_guard n.height n.round n.step.toNat h r = true) : enterPrevoteWait n h r = n :=
  if_pos (of_decide_eq_true ((guard_iff n h r _ .prevoteWait (by decide)).symm.trans g))

theorem enterPrecommit_skips (n : Node) (h r : Int)
    (g : Gen.e_enterPrecommit_guard n.height n.round n.step.toNat h r = true) : enterPrecommit n h r = n :=
  if_pos (of_decide_eq_true ((guard_iff n h r _ .precommit (by decide)).symm.trans g))

theorem enterPrecommitWait_skips (n : Node) (h r : Int)
    (g : Gen.e_enterPrecommitWait_guard n.height n.round n.step.toNat h r = true) : enterPrecommitWait n h r = n :=
  if_pos (of_decide_eq_true ((guard_iff n h r _ .precommitWait (by decide)).symm.trans g))

theorem enterNewRound_guard_iff (n : Node) (h r : Int) :
    Gen.e_enterNewRound_guard n.height n.round n.step.toNat h r =
      decide (n.height ≠ h ∨ r < n.round ∨ (n.round = r ∧ n.step ≠ .newHeight)) := by
  unfold Gen.e_enterNewRound_guard
  rw [Bool.eq_iff_iff]
  simp only [Bool.or_eq_true, Bool.and_eq_true, bne_iff_ne, beq_iff_eq, decide_eq_true_eq, ne_eq, step_eq_iff,
    or_assoc]
  rfl

theorem enterNewRound_skips (n : Node) (h r : Int)
    (g : Gen.e_enterNewRound_guard n.height n.round n.step.toNat h r = true) : enterNewRound n h r = n :=
  if_pos (of_decide_eq_true ((enterNewRound_guard_iff n h r).symm.trans g))

theorem enterCommit_skips (n : Node) (h cr : Int)
    (g : Gen.e_enterCommit_guard n.height n.step.toNat h = true) : enterCommit n h cr = n := by
  simp only [Gen.e_enterCommit_guard, Bool.or_eq_true, bne_iff_ne, decide_eq_true_eq] at g
  exact if_pos (g.imp_right (step_le_iff .commit n.step).2)

theorem finalizeCommit_skips (n : Node) (h : Int)
    (g : Gen.e_finalizeCommit_guard n.height n.step.toNat h = true) : finalizeCommit n h = n := by
  simp only [Gen.e_finalizeCommit_guard, Bool.or_eq_true, bne_iff_ne] at g
  exact if_pos (g.imp_right (mt (step_eq_iff n.step .commit).1))

theorem setProposal_skips (n : Node) (p : Proposal) (signer : Nat) (bad : Bool)
    (g : (Gen.e_setProposal_wrongHR n.height n.round p.height p.round ||
          Gen.e_setProposal_inCommit n.step.toNat ||
          Gen.e_setProposal_badPOL p.polRound p.round) = true) : setProposal n p signer bad = n := by
  unfold Gen.e_setProposal_wrongHR Gen.e_setProposal_inCommit Gen.e_setProposal_badPOL at g
  simp only [Bool.or_eq_true, Bool.and_eq_true, bne_iff_ne, ne_eq, decide_eq_true_eq] at g
  unfold setProposal
  refine ite_eq_left_iff.mpr fun _ => ite_eq_left_iff.mpr fun h1 => ite_eq_left_iff.mpr fun h2 => if_pos ?_
  rcases g with (g | g) | g
  · exact absurd g h1
  · exact absurd ((step_le_iff .commit n.step).mpr g) h2
  · simpa using g

/-- the unlock guard `(cs.LockedBlock != nil) && (cs.LockedRound < vote.Round) && (vote.Round <= cs.Round)` -/
theorem addVote_unlock_iff (n : Node) (vr : Int) :
    Gen.e_addVote_unlock n.lockedBlock.isSome n.lockedRound n.round vr =
      decide (n.lockedBlock.isSome ∧ n.lockedRound < vr ∧ vr ≤ n.round) := by
  unfold Gen.e_addVote_unlock
  rw [Bool.eq_iff_iff]
  simp only [Bool.and_eq_true, decide_eq_true_eq, and_assoc]

/-- a vote that is neither for the node's height nor a straggler precommit of the previous one
    leaves the model node unchanged, as decided by the code's own conditions -/
theorem addVote_foreign_height_skips (n : Node) (v : VoteSet.Vote) (ok : Bool) (peer : String)
    (g1 : Gen.e_addVote_lastHeight n.height v.height = false) (g2 : v.height ≠ n.height) :
    addVote n v ok peer = n := by
  rw [addVote, if_neg (ne_of_beq_false g1), if_neg g2]

theorem addVote_straggler_skips (n : Node) (v : VoteSet.Vote) (ok : Bool) (peer : String)
    (g1 : Gen.e_addVote_lastHeight n.height v.height = true)
    (g2 : Gen.e_addVote_straggler n.step.toNat v.type = true) : addVote n v ok peer = n := by
  have h2 : ¬ (n.step = .newHeight ∧ v.type = 2) := fun ⟨hs, ht⟩ => by
    rw [hs, ht] at g2
    exact absurd g2 (by decide)
  rw [addVote, if_pos (eq_of_beq g1), if_pos (by rw [decide_eq_false h2]; rfl)]

theorem addVote_any_iff (round vr : Int) (any : Bool) :
    Gen.e_addVote_prevoteAny round any vr = decide (round ≤ vr ∧ any) ∧
    Gen.e_addVote_precommitAny round any vr = decide (round ≤ vr ∧ any) := by
  unfold Gen.e_addVote_prevoteAny Gen.e_addVote_precommitAny
  by_cases h : round ≤ vr <;> cases any <;> simp [h]

theorem enterPrecommit_polRound_iff (pol r : Int) : Gen.e_enterPrecommit_polRound pol r = decide (pol < r) := rfl

/-- `defaultDoPrevote`: the vote for the locked block is signed exactly when a block is locked - no
    other condition stands in front of it (the model's `doPrevote`: `match n.lockedBlock with | some b => ...`) -/
theorem doPrevote_locked_votes_lock (l : Bool) :
    Gen.t_doPrevote_lock (cs_LockedBlock_notNil := l) = "reach" ↔ l = true := by
  unfold Gen.t_doPrevote_lock
  cases l <;> simp

/-- `defaultDoPrevote`: the proposal block is prevoted exactly when nothing is locked, a proposal
    block is there and it validates (the model's `doPrevote`, second half) -/
theorem doPrevote_block_iff (l p e : Bool) :
    Gen.t_doPrevote_block (cs_LockedBlock_notNil := l) (cs_ProposalBlock_notNil := p)
      (cs_state_ValidateBlock_cs_ProposalBlock_err_notNil := e) = "reach" ↔ (l = false ∧ p = true ∧ e = false) := by
  unfold Gen.t_doPrevote_block
  cases l <;> cases p <;> cases e <;> simp

end AnnVerif.Ties
