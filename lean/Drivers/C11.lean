import AnnVerif.Model.DriverUtil
import AnnVerif.Model.Trie
import AnnVerif.Model.TrieProof
import AnnVerif.Model.Keccak
import AnnVerif.Model.StateJournal
open AnnVerif AnnVerif.Drv

structure D where
  t : Trie.Node := .empty
  reopened : Bool := false   -- the trie was reopened from the node database: reads go through it
  db : StateJournal.DB := {}
  persisted : StateJournal.Accounts := fun _ => none
  dead : Bool := false

def hexOpt (o : Option Bytes) : String := match o with | some v => Hex.encode v | none => "-"

def showAcct (a : Nat) (x : StateJournal.Acct) : String :=
  let st := ((List.range 8).map fun k => (k, x.storage k)).filter (·.2 != 0)
  s!"{a}:n={x.nonce},b={x.balance},c={Hex.encode x.code},s={x.suicided},st=" ++ "/".intercalate (st.map fun (k, v) => s!"{k}={v}")

def dump (db : StateJournal.DB) : String :=
  " ".intercalate ((List.range 8).filterMap fun a => (db.accts a).map (showAcct a))

def step (d : D) (line : String) : D × String :=
  match words line with
  | ["cfg"] => (d, "ok")
  | ["new"] => ({ d with t := .empty, reopened := false }, Hex.encode (Trie.rootHash Keccak.keccak256 .empty))
  | ["put", k, v] =>
    match Hex.decode k, Hex.decode (if v == "-" then "" else v) with
    | some k, some v =>
      let t' := Trie.update d.t k v
      ({ d with t := t', reopened := false }, Hex.encode (Trie.rootHash Keccak.keccak256 t'))
    | _, _ => (d, "bad-op")
  | ["get", k] =>
    match Hex.decode k with
    | some k =>
      if d.reopened then
        -- read from what the commit wrote (Lemmas/TrieProof.lean): fetch by hash, decode, walk
        let hk := Trie.keybytesToHex k
        match d.t with
        | .empty => (d, "-")
        | _ =>
          (d, match Trie.verify Keccak.keccak256 (Trie.commitNodes Keccak.keccak256 d.t) (hk.length + 1)
                (Trie.rootHash Keccak.keccak256 d.t) hk with
            | some o => hexOpt o
            | none => "missing-node")
      else (d, hexOpt (Trie.lookup d.t k))
    | none => (d, "bad-op")
  | ["commit"] => (d, Hex.encode (Trie.rootHash Keccak.keccak256 d.t))
  | ["reopen"] => ({ d with reopened := true }, Hex.encode (Trie.rootHash Keccak.keccak256 d.t))
  | ["prove", k] =>
    match Hex.decode k with
    | some k =>
      -- the model's prover and verifier (Model/TrieProof.lean), with Keccak-256
      let hk := Trie.keybytesToHex k
      let proof := Trie.prove Keccak.keccak256 d.t hk
      let nodes := (proof.map fun e => Hex.encode (Keccak.keccak256 e)).toArray.qsort (· < ·) |>.toList
      let ns := " nodes=" ++ ",".intercalate nodes
      (d, match Trie.verify Keccak.keccak256 proof (hk.length + 1) (Trie.rootHash Keccak.keccak256 d.t) hk with
        | none => "proof=bad" ++ ns    -- also the empty trie: VerifyProof has no node to start from
        | some none => "proof=ok val=-" ++ ns
        | some (some v) => "proof=ok val=" ++ Hex.encode v ++ ns)
    | none => (d, "bad-op")
  -- the journalled state database
  | ["sdb", "new"] => ({ d with db := {}, persisted := fun _ => none, dead := false }, "ok")
  | ["sdb", "nonce", a, n] => (match a.toNat?, n.toNat? with
      | some a, some n => ({ d with db := StateJournal.setNonce d.db a n }, "ok") | _, _ => (d, "bad-op"))
  | ["sdb", "balance", a, n] => (match a.toNat?, n.toNat? with
      | some a, some n => ({ d with db := StateJournal.setBalance d.db a n }, "ok") | _, _ => (d, "bad-op"))
  | ["sdb", "code", a, c] => (match a.toNat?, Hex.decode (if c == "-" then "" else c) with
      | some a, some c => ({ d with db := StateJournal.setCode d.db a c }, "ok") | _, _ => (d, "bad-op"))
  | ["sdb", "state", a, k, v] => (match a.toNat?, k.toNat?, v.toNat? with
      | some a, some k, some v => ({ d with db := StateJournal.setState d.db a k v }, "ok") | _, _, _ => (d, "bad-op"))
  | ["sdb", "create", a] => (match a.toNat? with
      | some a => ({ d with db := StateJournal.createAccount d.db a }, "ok") | none => (d, "bad-op"))
  | ["sdb", "suicide", a] => (match a.toNat? with
      | some a => ({ d with db := StateJournal.suicide d.db a }, "ok") | none => (d, "bad-op"))
  | ["sdb", "snapshot"] => let (db', id) := StateJournal.snapshot d.db; ({ d with db := db' }, s!"snap={id}")
  | ["sdb", "revert", id] => (match id.toNat? with
      | some id => (match StateJournal.revert d.db id with
          | some db' => ({ d with db := db' }, "ok")
          | none => (d, "PANIC"))
      | none => (d, "bad-op"))
  | ["sdb", "dump"] => (d, "dump " ++ dump d.db)
  | ["sdb", "root"] => ({ d with db := StateJournal.finalise d.db }, "ok")
  | ["sdb", "peek", _] => (d, "ok")      -- reads load the object, they change nothing
  | ["sdb", "root1"] => ({ d with db := StateJournal.finaliseDel d.db }, "ok")
  | ["sdb", "commit1"] =>
    let db' := StateJournal.commitDel d.db d.persisted
    ({ d with db := db', persisted := db'.accts }, "ok")
  | ["sdb", "commit"] =>
    let db' := StateJournal.commit d.db d.persisted
    ({ d with db := db', persisted := db'.accts }, "ok")
  | _ => (d, "bad-op")

def main : IO Unit := run step {}
